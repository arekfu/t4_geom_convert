import T4V.Model.BC
import T4V.Spec.T4
import T4V.Proofs.Composition
/-!
# Property C16 — reflecting and white surfaces become boundary conditions (entry logic)

Model: `T4V.Model.BC` (`recuperateBoundaryCondition`, `conversionBoundCond`).  The *designation*
clause (the entry's number is a surface of the written file with the flagged locus) is false on the
current tree after de-duplication / for unused surfaces (known findings F2a, F2b): what is proved
here is the `_partial` statement about which entries are produced, with the number of the MCNP card.
-/
namespace T4V.C16

/-- One equation through `Option` carries all there is to say of a successful run: the numbers, their order, and that
every flag has a kind.  `entries_partial`, `one_entry_per_flagged`, `bcEntries_kinds` and the numbers in
`designates_iff_flagged_written_partial` are read off it. -/
theorem bcEntries_spec : ∀ (surfs : List BCSurf) (es : List (Nat × String)), bcEntries surfs = .ok es →
    es.map (fun e => (e.1, some e.2)) = (surfs.filter (·.flag != "")).map fun s => (s.id, bcKind? s.flag)
  | [], es, h => by
    simp only [bcEntries, Except.ok.injEq] at h
    subst h
    rfl
  | s :: rest, es, h => by
    unfold bcEntries at h
    split at h
    · rename_i hf
      rw [List.filter_cons_of_neg (by simpa using hf)]
      exact bcEntries_spec rest es h
    · rename_i hf
      rw [List.filter_cons_of_pos (by simpa using hf)]
      split at h
      · simp at h
      · split at h
        · simp at h
        · rename_i k hk
          split at h
          · rename_i es' hr
            simp only [Except.ok.injEq] at h
            subst h
            simp only [List.map_cons, hk, bcEntries_spec rest es' hr]
          · simp at h

/-- entries are produced exactly for the flagged surfaces, in order, one each, with the kind of the
flag; unflagged surfaces produce none -/
theorem entries_partial : ∀ (surfs : List BCSurf) (es : List (Nat × String)), bcEntries surfs = .ok es →
    es = (surfs.filter (·.flag != "")).filterMap fun s => (bcKind? s.flag).map fun k => (s.id, k) := by
  intro surfs es h
  have := congrArg (List.filterMap fun p : Nat × Option String => p.2.map fun k => (p.1, k)) (bcEntries_spec surfs es h)
  simpa [List.filterMap_map, Function.comp_def] using this

/-- every flagged single surface among successfully converted input gets exactly one entry -/
theorem one_entry_per_flagged (surfs : List BCSurf) (es : List (Nat × String)) (h : bcEntries surfs = .ok es) :
    es.length = (surfs.filter (·.flag != "")).length := by
  simpa using congrArg List.length (bcEntries_spec surfs es h)

/-- a flag on a surface made of several members (a macrobody with more than one facet) is rejected -/
theorem macrobody_flag_rejected (pre post : List BCSurf) (s : BCSurf) (hpre : ∀ x ∈ pre, x.flag = "")
    (hf : s.flag ≠ "") (hp : s.parts > 1) : bcEntries (pre ++ s :: post) = .error .macrobody := by
  induction pre with
  | nil =>
    have : (s.flag == "") = false := by simpa using hf
    simp [bcEntries, this, hp]
  | cons x xs ih =>
    have hx : (x.flag == "") = true := by simpa using hpre x (by simp)
    simp only [List.cons_append, bcEntries, hx, if_true]
    exact ih (fun y hy => hpre y (by simp [hy]))

/-- Full-strength designation clause, **false on the current tree** (known findings F2a/F2b), kept as a
definition: every entry designates a surface that is written and has the flagged surface's definition. -/
def designates (written : List (Nat × String)) (defs : Nat → Option String) (es : List (Nat × String)) : Prop :=
  ∀ e ∈ es, ∃ d, (e.1, d) ∈ written ∧ defs e.1 = some d

/-- **designation, partial**: the entries designate written surfaces with the flagged surfaces' definitions exactly
when every flagged surface of the dictionary is itself written under its own number — which the current tree does
not guarantee (a flagged surface that bounds no converted cell, or one merged into a lower-numbered duplicate, is not
written: findings F2a / F2b) -/
theorem designates_iff_flagged_written_partial (surfs : List BCSurf) (es : List (Nat × String))
    (h : bcEntries surfs = .ok es) (written : List (Nat × String)) (defs : Nat → Option String) :
    designates written defs es ↔ ∀ s ∈ surfs, s.flag ≠ "" → ∃ d, (s.id, d) ∈ written ∧ defs s.id = some d := by
  -- both sides speak of the numbers only, and `bcEntries_spec` shows the two lists of numbers to be one
  have ids : es.map Prod.fst = (surfs.filter (·.flag != "")).map BCSurf.id := by
    simpa [Function.comp_def] using congrArg (List.map Prod.fst) (bcEntries_spec surfs es h)
  unfold designates
  rw [← List.forall_mem_map (f := Prod.fst) (P := fun i => ∃ d, (i, d) ∈ written ∧ defs i = some d), ids,
    List.forall_mem_map]
  simp [List.mem_filter]

/-- the full-strength clause is false of the model (as of the code): a flagged surface that is not written still
gets its entry -/
theorem designation_fails_when_a_flagged_surface_is_not_written :
    ∃ (surfs : List BCSurf) (es : List (Nat × String)) (written : List (Nat × String)) (defs : Nat → Option String),
      bcEntries surfs = .ok es ∧ ¬ designates written defs es :=
  ⟨[⟨9, "*", 1⟩], [(9, "REFLECTION")], [], fun _ => none, by simp [bcEntries, bcKind?], by simp [designates]⟩

example : bcEntries [⟨1, "", 1⟩, ⟨2, "*", 1⟩, ⟨3, "+", 1⟩] = .ok [(2, "REFLECTION"), (3, "COSINUS")] := by
  simp [bcEntries, bcKind?]
example : bcEntries [⟨1, "*", 6⟩] = .error .macrobody := by simp [bcEntries]

/-! ### the block as written and as read back (C08: declared count = entries; C16: kind and number of each entry) -/
open T4V.CMP T4V.WR

theorem bcEntries_kinds : ∀ (surfs : List BCSurf) (es : List (Nat × String)), bcEntries surfs = .ok es →
    ∀ e ∈ es, e.2 = "REFLECTION" ∨ e.2 = "COSINUS" := by
  intro surfs es h e he
  have hm := List.mem_map_of_mem (f := fun e : Nat × String => (e.1, some e.2)) he
  rw [bcEntries_spec surfs es h] at hm
  obtain ⟨s, _, hs⟩ := List.mem_map.mp hm
  have hk : bcKind? s.flag = some e.2 := (Prod.mk.inj hs).2
  unfold bcKind? at hk
  split at hk
  · exact Or.inl (Option.some.inj hk).symm
  · exact Or.inr (Option.some.inj hk).symm
  · cases hk

theorem bcLine_entries : ∀ (es : List (Nat × String)) (a : BCAcc), (∀ e ∈ es, e.2 = "REFLECTION" ∨ e.2 = "COSINUS") →
    ((es.map fun (p : Nat × String) => "ALL_COMPLETE" ++ " " ++ p.2 ++ " " ++ toString p.1).map words).foldl bcLine a =
      { a with entries := a.entries ++ es.map fun p => (p.2, p.1) }
  | [], a, _ => by simp
  | (i, k) :: r, a, h => by
    have hk : Tok k := by
      rcases h (i, k) List.mem_cons_self with rfl | rfl <;> exact lit_tok _ (by simp)
    have hw : words ("ALL_COMPLETE" ++ " " ++ k ++ " " ++ toString i) = ["ALL_COMPLETE", k, toString i] := by
      simp only [words_append_blank]
      rw [words_tok _ (lit_tok "ALL_COMPLETE" (by simp)), words_tok _ hk, words_tok _ (nat_tok i)]
      rfl
    simp only [List.map_cons, List.foldl_cons, hw]
    have hb : bcLine a ["ALL_COMPLETE", k, toString i] = { a with entries := a.entries ++ [(k, i)] } := by
      simp [bcLine]
    rw [hb, bcLine_entries r _ (fun e he => h e (List.mem_cons_of_mem _ he))]
    simp [List.append_assoc]

/-- **the BOUNDARY_CONDITION block is read back exactly**: from the text of the lines between the keyword and
END_BOUNDARY_CONDITION the reader recovers the declared count — which is the number of entries — and, in order, the
kind and the surface number of every entry, without a complaint -/
theorem bc_block_roundtrip (surfs : List BCSurf) (es : List (Nat × String)) (h : bcEntries surfs = .ok es) (hne : es ≠ []) :
    ∃ inner, bcTextLines es = ["", "BOUNDARY_CONDITION"] ++ inner ++ ["END_BOUNDARY_CONDITION"] ∧
      (inner.map words).foldl bcLine {} =
        { declared := some es.length, entries := es.map fun p => (p.2, p.1), errs := [] } := by
  refine ⟨toString es.length :: es.map (fun (p : Nat × String) => "ALL_COMPLETE" ++ " " ++ p.2 ++ " " ++ toString p.1), ?_, ?_⟩
  · unfold bcTextLines
    have : es.isEmpty = false := by cases es with | nil => exact absurd rfl hne | cons _ _ => rfl
    simp [this]
  · simp only [List.map_cons, List.foldl_cons, words_tok _ (nat_tok _)]
    have h0 : bcLine {} [toString es.length] = { declared := some es.length } := by
      simp [bcLine]
    rw [h0, bcLine_entries es _ (bcEntries_kinds surfs es h)]
    simp

/-- no flagged surface, no block -/
theorem no_entries_no_block : bcTextLines [] = [] := rfl

end T4V.C16
