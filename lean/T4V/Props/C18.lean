import T4V.Model.Write
import T4V.Proofs.PostOrder
/-!
# Property C18 — conversion is deterministic and leaves no state between runs  (partial)

The model is a pure function of the deck: every definition of `T4V.Model` is a Lean function, there is no
state to leak and no iteration order to depend on — *except* where the code iterates over a `set`, whose
order is a runtime fact (insertion history, hash seed).  What is proved here is the part that is logic:
at the places where a set reaches the output, the writers sort, so the text does not depend on the
enumeration order, and the one pass that iterates over a set of keys (`remove_empty_volumes`) gives the same
dictionary for every enumeration of it.  That CPython's set iteration and module state behave as assumed is probed by the
`hashseed` and `history` streams, not proved.
-/
namespace T4V.C18

theorem natLe_trans (a b c : Nat) : natLe a b = true → natLe b c = true → natLe a c = true := by
  simp only [natLe, decide_eq_true_eq]; omega

theorem natLe_total (a b : Nat) : (natLe a b || natLe b a) = true := by
  simp only [natLe, Bool.or_eq_true, decide_eq_true_eq]; omega

/-- sorting forgets the enumeration order -/
theorem sort_order_independent (l₁ l₂ : List Nat) (h : l₁.Perm l₂) :
    l₁.mergeSort natLe = l₂.mergeSort natLe := by
  apply List.Perm.eq_of_pairwise (le := fun a b => natLe a b = true)
  · intro a b _ _ hab hba
    simp only [natLe, decide_eq_true_eq] at hab hba; omega
  · exact List.pairwise_mergeSort natLe_trans natLe_total l₁
  · exact List.pairwise_mergeSort natLe_trans natLe_total l₂
  · exact (List.mergeSort_perm l₁ natLe).trans (h.trans (List.mergeSort_perm l₂ natLe).symm)

/-- **`VolumeT4.__str__` does not depend on the iteration order of its two sets** -/
theorem volume_line_order_independent (p₁ p₂ m₁ m₂ : List Nat) (hp : p₁.Perm p₂) (hm : m₁.Perm m₂)
    (ops : Option (String × List Nat)) (fictive : Bool) :
    volLine p₁ m₁ ops fictive = volLine p₂ m₂ ops fictive := by
  unfold volLine volWords
  rw [sort_order_independent p₁ p₂ hp, sort_order_independent m₁ m₂ hm, hp.length_eq, hm.length_eq,
    hp.isEmpty_eq, hm.isEmpty_eq]

/-- **the order in which surfaces are written does not depend on the iteration order of the set of
surfaces in use** -/
theorem surface_order_independent (u₁ u₂ : List Nat) (h : u₁.Perm u₂) : surfOrder u₁ = surfOrder u₂ :=
  sort_order_independent u₁ u₂ h

/-- **the clean-up of empty volumes does not depend on how its sets are enumerated**: `remove_empty_volumes` keeps the
keys still to remove and the keys removed so far in Python sets; whatever the order in which the first is iterated (any
permutation `q` of the empty volumes), and whatever the order of the second, the dictionary that results is the one
of the model — deleted volumes, neutralised unions and pruned operand lists included -/
theorem empty_volume_cleanup_order_independent (u : Nat × Nat) (vols : List (Nat × Vol)) (q : List Nat)
    (hq : q.Perm ((vols.filter (·.2.empty)).map (·.1))) :
    removeEmpty.loop u (vols.length + 2) vols q [] = removeEmpty u vols := by
  unfold removeEmpty
  exact loop_order_independent u _ vols _ _ _ _ hq (fun _ => Iff.rfl)

/-- one round: the same volumes are deleted (as a set) and the same dictionary is left, whatever the order of the
queue -/
theorem cleanup_round_order_independent (u : Nat × Nat) (vols : List (Nat × Vol)) (q₁ q₂ : List Nat) (hq : q₁.Perm q₂) :
    (removeEmptyRound u vols q₁).1 = (removeEmptyRound u vols q₂).1 ∧
    (removeEmptyRound u vols q₁).2.Perm (removeEmptyRound u vols q₂).2 := by
  rw [removeEmptyRound_eq, removeEmptyRound_eq]
  exact fold_perm u hq (AccEq.refl _)

example : [7, 3, 5].Perm [5, 7, 3] ∧ surfOrder [7, 3, 5] = [3, 5, 7] := by
  refine ⟨?_, by simp [surfOrder, List.mergeSort, natLe]⟩
  exact (List.perm_append_comm (l₁ := [7, 3]) (l₂ := [5]))

end T4V.C18
