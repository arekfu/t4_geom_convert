import T4V.Proofs.NormLayoutTree
/-!
# Property C11 — cell expressions denote the Boolean function MCNP assigns to them

Model: `T4V.Text.GeomParse` (`normalize`, PEG parser, `GeomSemantics`), `T4V.Model.Tree`
(`GeomExpression.inverse`, `pot_complement`).  All statements are for every expression of every
size, every legal spacing and every assignment of senses.
-/
namespace T4V.C11

/-- (1) Parsing: the canonical spelling of any well-formed source expression (union of
intersections of operands, signed surfaces with optional facet, `#( … )`, `#n`, parentheses at any
depth) is parsed completely, to the left-associated tree MCNP's precedence rules prescribe. -/
theorem parse_canonical (u : SU) (g : Geom) (hw : u.WF) (ht : u.tree = some g) :
    pUnion u.cost u.chars = .ok (g, []) :=
  parse_render u g hw ht u.cost (Nat.le_refl _)

/-- (2) Meaning of the parsed tree: for every assignment of senses `σ` to the surfaces and of truth
values `cv` to the cells referenced by `#n`, the tree evaluates to MCNP's reading of the expression
(blank binds tighter than colon; `#( … )` complements the sub-expression, via De Morgan). -/
theorem parsed_tree_meaning (σ : SurfVal) (cv : Nat → Bool) (u : SU) (g : Geom) (hz : u.NZ)
    (ht : u.tree = some g) : g.eval σ cv = u.eval σ cv :=
  (SU.tree_sound σ cv u g hz ht).2

/-- (1)+(2): parse the canonical text, evaluate the result: MCNP's Boolean function. -/
theorem parse_meaning (σ : SurfVal) (cv : Nat → Bool) (u : SU) (g : Geom) (hw : u.WF) (hz : u.NZ)
    (ht : u.tree = some g) :
    ∃ g', pUnion u.cost u.chars = .ok (g', []) ∧ g'.eval σ cv = u.eval σ cv :=
  ⟨g, parse_canonical u g hw ht, parsed_tree_meaning σ cv u g hz ht⟩

/-- (3) De Morgan inverse (`GeomExpression.inverse`): negates the Boolean function. -/
theorem inverse_negates (σ : SurfVal) (cv : Nat → Bool) (g g' : Geom) (hz : g.nonzero = true)
    (h : g.inverse = some g') : g'.eval σ cv = !g.eval σ cv :=
  inverse_eval σ cv g g' hz h

/-- (4) Complement elimination (`pot_complement`): when it succeeds, the result contains no `#`
any more and, for every sense assignment, has the value MCNP assigns to the original expression
with every `#n` read as "not in cell n" (cells referring to cells, to any depth). -/
theorem complement_elimination (cells : List CellGeom) (hc : CellsOK cells) (σ : SurfVal)
    (cv : Nat → Bool) (fuel : Nat) (g g' : Geom) (hz : g.nonzero = true) (hn : g.noCref = true)
    (h : potComplement cells fuel g = .ok g') :
    g'.pure = true ∧ ∀ f2 b, cellRegion.regionOf cells σ f2 g = some b → g'.eval σ cv = b :=
  let r := potComplement_eval cells hc σ cv fuel g g' hz h
  ⟨r.1 hn, r.2.2⟩

/-- (0) **Spacing**: `normalize` (the nine regex passes of `parsegeom.normalize`, character by character) maps every
legal layout of an expression — any run of the six ASCII blanks, possibly empty, after every token and in front;
at least one blank between two surface literals, or between a cell number `#n` and a literal, that follow each other
— to the canonical spelling of the expression: `*` for the implicit intersection, `_(`/`^(n)` for the complements. -/
theorem normalize_any_layout (u : NL.LU) (g0 : List Char) (hw : u.erase.WF) (hg : u.GapsWs) (h0 : NL.AllWs g0)
    (hl : NL.LegalFrom none g0 u.toks) : normalize (u.text g0) = u.erase.chars := by
  rw [NL.LU.text, NL.normalize_tokens u.toks g0 (NL.LU.toks_ok u hw hg) h0 hl, ← NL.canonT_eq, NL.canon_toks]

/-- (0)+(1)+(2): **any legal spacing of the expression** is normalised and parsed to a tree that evaluates to MCNP's
Boolean function of the expression, for every assignment of senses -/
theorem layout_meaning (σ : SurfVal) (cv : Nat → Bool) (u : NL.LU) (g0 : List Char) (g : Geom) (hw : u.erase.WF)
    (hz : u.erase.NZ) (hg : u.GapsWs) (h0 : NL.AllWs g0) (hl : NL.LegalFrom none g0 u.toks)
    (ht : u.erase.tree = some g) :
    ∃ g', pUnion u.erase.cost (normalize (u.text g0)) = .ok (g', []) ∧ g'.eval σ cv = u.erase.eval σ cv := by
  rw [normalize_any_layout u g0 hw hg h0 hl]
  exact parse_meaning σ cv u.erase g hw hz ht

/-- (1′) **the parser entry point itself** (`parseGeom` = `get_ast`: normalise, parse with the fuel the model
provides, demand that the whole text is consumed): whenever a text normalises to the canonical spelling of a
well-formed expression, the result is the tree MCNP's reading prescribes — the fuel `3·length + 3` is enough for
every expression. -/
theorem parseGeom_canonical (s : String) (u : SU) (g : Geom) (hw : u.WF) (ht : u.tree = some g)
    (hs : normalize s.toList = u.chars) : parseGeom s = .ok g := by
  have hf : u.cost ≤ 3 * u.chars.length + 3 := Nat.le_succ_of_le (SU.cost_le u hw)
  simp only [parseGeom, hs, parse_render u g hw ht _ hf]

/-- (0)+(1′): **`get_ast` on any legal layout** of the expression returns MCNP's tree -/
theorem parseGeom_any_layout (u : NL.LU) (g0 : List Char) (g : Geom) (hw : u.erase.WF) (hg : u.GapsWs)
    (h0 : NL.AllWs g0) (hl : NL.LegalFrom none g0 u.toks) (ht : u.erase.tree = some g) :
    parseGeom (String.ofList (u.text g0)) = .ok g :=
  parseGeom_canonical _ u.erase g hw ht (by rw [String.toList_ofList]; exact normalize_any_layout u g0 hw hg h0 hl)

/-- (0)+(1′)+(2): the tree `get_ast` returns for any legal layout evaluates to MCNP's Boolean function of the
expression, for every assignment of senses -/
theorem parseGeom_meaning (σ : SurfVal) (cv : Nat → Bool) (u : NL.LU) (g0 : List Char) (g : Geom) (hw : u.erase.WF)
    (hz : u.erase.NZ) (hg : u.GapsWs) (h0 : NL.AllWs g0) (hl : NL.LegalFrom none g0 u.toks)
    (ht : u.erase.tree = some g) :
    parseGeom (String.ofList (u.text g0)) = .ok g ∧ g.eval σ cv = u.erase.eval σ cv :=
  ⟨parseGeom_any_layout u g0 g hw hg h0 hl ht, parsed_tree_meaning σ cv u.erase g hz ht⟩

/-! Non-vacuity: a concrete expression `-1 (2:-3.1) #(4 5) #7` meets every hypothesis. -/
def exLit (neg : Bool) (d : Char) (facet : Option Char) : Lit :=
  { sign := if neg then some true else none, ds := [d], facet }

def exU : SU :=
  .mk (.mk (.lit (exLit true '1' none))
        [ .par (.mk (.mk (.lit (exLit false '2' none)) []) [.mk (.lit (exLit true '3' (some '1'))) []]),
          .compl (.mk (.mk (.lit (exLit false '4' none)) [.lit (exLit false '5' none)]) []),
          .ccell ['7'] ]) []

example : exU.chars = "-1*(2:-3.1)*_(4*5)*^(7)".toList := by
  simp only [String.reduceToList]; decide
example : exU.WF := by
  simp [exU, SU.WF, SI.WF, SO.WF, wfIs, wfOs, Lit.WF, exLit, Char.isDigit]
example : exU.NZ := by
  simp [exU, SU.NZ, SI.NZ, SO.NZ, nzIs, nzOs, exLit, digitsVal]
example : exU.tree.isSome = true := by
  simp [exU, SU.tree, SI.tree, SO.tree, treesIs, treesOs, Geom.inverse, Geom.inverseList, foldUnion,
    foldInter, Lit.geom]

/-! Non-vacuity of the spacing theorem: `  -1(2 :\t-3.1 )#  ( 4  5)# 7 ` is a legal layout of `exU`
(no blank between `-1` and `(`, between `)` and `#`; a tab after the colon; blanks inside `#  (` and `# 7`). -/
def exL : NL.LU :=
  .mk (.mk [] (.lit (exLit true '1' none) [])
        [ .par [] (.mk (.mk [] (.lit (exLit false '2' none) [' ']) [])
                      [.mk ['\t'] (.lit (exLit true '3' (some '1')) [' ']) []]) [],
          .compl [' ', ' '] [' ']
            (.mk (.mk [] (.lit (exLit false '4' none) [' ', ' ']) [.lit (exLit false '5' none) []]) []) [],
          .ccell [' '] ['7'] [' '] ]) []

example : exL.erase = exU := rfl
example : exL.text [' ', ' '] = "  -1(2 :\t-3.1 )#  ( 4  5)# 7 ".toList := by
  simp only [String.reduceToList]; decide
example : normalize (exL.text [' ', ' ']) = exU.chars :=
  normalize_any_layout exL [' ', ' ']
    (by simp [exL, NL.LU.erase, NL.LI.erase, NL.LO.erase, NL.eraseIs, NL.eraseOs, SU.WF, SI.WF, SO.WF, wfIs, wfOs,
      Lit.WF, exLit, Char.isDigit])
    (by simp [exL, NL.LU.GapsWs, NL.LI.GapsWs, NL.LO.GapsWs, NL.gapsWsIs, NL.gapsWsOs, NL.AllWs, NL.LI.gc, isWs])
    (by simp [NL.AllWs, isWs])
    (by simp [exL, NL.LU.toks, NL.LI.toks, NL.LO.toks, NL.toksIs, NL.toksOs, NL.LegalFrom, NL.isLitO, NL.LI.gc, exLit,
      Lit.chars, Char.isDigit])

end T4V.C11
