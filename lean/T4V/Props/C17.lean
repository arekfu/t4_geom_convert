import T4V.Proofs.KwArray
import T4V.Proofs.Expand
import T4V.Proofs.LatticeArg
import T4V.Text.DataCard
import T4V.Spec.Comp
import T4V.Model.Macro
import T4V.Model.TRCard
import T4V.Model.Keywords
import T4V.Model.Lattice
/-!
# Property C17 — unsupported or malformed input stops the run (decision logic, stated outright)

Each theorem says: *whenever the input has the fault, the modelled stage returns an error — for
every deck around it*.  The modelled stages are the ones the property lists whose logic lives in
pure functions: facet range check (`pot_expand_surfs`), FILL-array length (`expand_data_card` with
`expected`), IMP cards of unequal length (`parse_importance_cards`), mixed-sign material fractions
(`compositionConversionMCNPToT4`), parameter counts and unknown mnemonics (`normalize_surface`), m = −1
(`normalize_transform`), lattice dimensionality (`develop_lattice`), keywords without value and LAT values
(`parse_keywords`).  `--lattice` option syntax and macrobody parameter counts are tied to the check by fault
injection only (see evidence, `not_proved`).
-/
namespace T4V.C17

/-- a facet index larger than the number of facets of the body is rejected, whatever the rest of the
tree, the numbering state and the other surfaces -/
theorem facet_beyond_rejected (m : Matching) (n : Int) (j : Nat) (k : Nat) (ids : List Int)
    (hm : m.get? n.natAbs = some ids) (hj : j > ids.length) :
    potExpand m (.msurf n (some j)) k = .error (.badFacet n j ids.length) := by
  simp [potExpand, hm, hj]

/-- The error of a rejected facet index propagates through any enclosing node (first failing argument wins). -/
theorem facet_beyond_rejected_in_node (m : Matching) (nid : Nat) (op : Op) (pre post : List FTree) (t : FTree)
    (k : Nat) (pre' : List FTree) (k' : Nat) (e : Err)
    (hpre : potExpandList m pre k = .ok (pre', k')) (ht : potExpand m t k' = .error e) :
    potExpand m (.node nid op (pre ++ t :: post)) k = .error e := by
  suffices h : potExpandList m (pre ++ t :: post) k = .error e by simp [potExpand, h, bind, Except.bind]
  induction pre generalizing pre' k with
  | nil =>
    cases hpre
    simp [potExpandList, ht, bind, Except.bind]
  | cons x xs ih =>
    simp only [potExpandList, Except.bind_eq_ok_iff, Prod.exists, Except.ok.injEq, Prod.mk.injEq] at hpre
    obtain ⟨x1, k1, h1, xs2, k2, h2, -, rfl⟩ := hpre
    simp [potExpandList, h1, ih k1 xs2 h2, bind, Except.bind]

/-- a FILL array (or any data card read with `expected = n`) that expands to fewer than `n` entries is
rejected -/
theorem fill_array_too_short (n : Nat) (ts : List (DTok Float)) (r : List (Option Float)) (c : Nat)
    (h : expandData (some n) ts [] 0 = .ok (r, c)) (hl : r.length ≠ n) :
    expandChecked (some n) ts = .error .expected := by
  simp [expandChecked, h, hl]

/-- IMP:x data cards of different lengths are rejected -/
theorem imp_cards_unequal_rejected (c : List (Option Float)) (cs : List (List (Option Float)))
    (hne : cs ≠ []) (h : ∃ d ∈ cs, d.length ≠ c.length) : importanceCards (c :: cs) = .error "unequal" := by
  obtain ⟨d, hd, hl⟩ := h
  cases cs with
  | nil => exact absurd rfl hne
  | cons x xs =>
    have : (x :: xs).any (fun y => y.length != c.length) = true := by
      rw [List.any_eq_true]
      exact ⟨d, hd, by simpa using hl⟩
    simp [importanceCards, importanceCardsG, this]

/-- a material card that mixes positive and negative fractions is rejected (whatever nuclides it lists) -/
theorem mixed_sign_rejected (tokens : List String) (z0 f0 : String) (rest : List (String × String))
    (he : matEntries tokens = (z0, f0) :: rest)
    (hmix : ∃ e ∈ rest, isNegLit e.2 ≠ isNegLit f0) :
    compExpected tokens = .error "mixed-signs" := by
  obtain ⟨e, hmem, hne⟩ := hmix
  have : ((z0, f0) :: rest).any (fun x => (!isNegLit x.2) != !isNegLit f0) = true := by
    rw [List.any_eq_true]
    refine ⟨e, List.mem_cons_of_mem _ hmem, ?_⟩
    simpa using hne
  unfold compExpected
  rw [he]
  simp only [this, if_true]

example : potExpand [(7, [1, -2, 3])] (.msurf 7 (some 4)) 10 = .error (.badFacet 7 4 3) :=
  facet_beyond_rejected [(7, [1, -2, 3])] 7 4 10 [1, -2, 3] rfl (by decide)
example : importanceCards [[some 1, some 0], [some 1]] = .error "unequal" :=
  imp_cards_unequal_rejected _ _ (by simp) ⟨[some 1], by simp, by simp⟩

section Scalar
variable {α : Type} [Add α] [Sub α] [Mul α] [Div α] [Neg α] [OfNat α 0] [OfNat α 1]
  [LT α] [DecidableLT α] [BEq α] [Transc α]

/-- **wrong parameter count / unknown mnemonic**: a surface card is converted only if its mnemonic is in the
table `N_PARAMS` and the number of entries is one the table allows — whatever the values -/
theorem surface_card_arity (e1 e2 : α) (mn : String) (ps : List α) (h : (cadOf e1 e2 mn ps).isSome = true) :
    ∃ ns, surfaceArity mn = some ns ∧ ps.length ∈ ns := by
  unfold cadOf at h
  cases hs : surfaceArity mn with
  | none => simp [hs] at h
  | some ns =>
    simp only [hs] at h
    by_cases hc : ns.contains ps.length = true
    · exact ⟨ns, rfl, by simpa using hc⟩
    · rw [if_neg hc] at h; simp at h

theorem unknown_mnemonic_rejected (e1 e2 : α) (mn : String) (ps : List α) (h : surfaceArity mn = none) :
    cadOf e1 e2 mn ps = none := by
  simp [cadOf, h]

/-- a TR card / inline transformation with a 13th entry other than 1 (m = −1) is rejected -/
theorem tr_m_not_one_rejected (snap : α) (tr : List (Option α)) (m : α) (h12 : tr.length = 12)
    (hm : (m == 1) = false) : normTransform snap (tr ++ [some m]) = .error .mMinusOne := by
  have hlen : (tr ++ [some m]).length = 13 := by simp [h12]
  simp [normTransform, hlen, hm]

/-- a lattice whose number of non-trivial FILL ranges differs from the number of lattice vectors (`--lattice` or
FILL array of the wrong dimensionality) is rejected -/
theorem lattice_dimension_mismatch_rejected (base : List (V3 α)) (bounds : List (Int × Int)) (spec : List Nat)
    (univ : Nat) (filltr trcl : Option (List α)) (h1 : base.length ≠ bounds.length) (h2 : base.length ≠ latDims bounds) :
    developLattice base bounds spec univ filltr trcl = .error .dims := by
  have e1 : (base.length != bounds.length) = true := by simpa using h1
  have e2 : (base.length != latDims bounds) = true := by simpa using h2
  simp [developLattice, e1, e2]

/-- the parameter counts each macrobody accepts -/
def macroTable : List (String × Nat) :=
  [("rpp", 6), ("box", 12), ("sph", 4), ("rcc", 7), ("rhp", 15), ("rhp", 9), ("wed", 12), ("trc", 8), ("rec", 12),
   ("rec", 10), ("ell", 7)]

/-- **a macrobody card is converted only with a parameter count its mnemonic allows** — whatever the values
(`HEX` is `RHP` under another name and is renamed before) -/
theorem macrobody_parameter_count (mn : String) (ps : List α) (h : (macroParts mn ps).isSome = true) :
    (mn, ps.length) ∈ macroTable := by
  unfold macroParts at h
  -- each alternative has its count in the table; what is left returns nothing
  split at h <;> first | (simp only [List.length_cons, List.length_nil]; decide) | cases h

/-- An ARB card is converted only with its thirty entries. -/
theorem arb_parameter_count (e1 e2 : α) (toNat : α → Nat) (ps : List α) (h : (arbParts e1 e2 toNat ps).isSome = true) :
    ps.length = 30 := by
  unfold arbParts at h
  by_cases hl : ps.length = 30
  · exact hl
  · simp [hl] at h
end Scalar

/-- a keyword at the end of the cell options without its value (`U`, `MAT`, `RHO`, `LAT`, `IMP:…`, `FILL`) stops
the run -/
theorem keyword_without_value_rejected (toks : List String) (st : KwState × List Item)
    (h : kwRun (.idle, []) toks = .ok st)
    (hw : st.1 = .wantU ∨ st.1 = .wantMat ∨ st.1 = .wantRho ∨ st.1 = .wantLat ∨ (∃ ps, st.1 = .wantImp ps) ∨
      (∃ s, st.1 = .fillFirst s)) :
    parseKeywords toks = .error .pop := by
  obtain ⟨s, acc⟩ := st
  simp only [parseKeywords, groupTokens, h]
  rcases hw with h' | h' | h' | h' | ⟨ps, h'⟩ | ⟨b, h'⟩
  all_goals
    simp only at h'
    subst h'
    simp [kwFinish, Except.map]

/-- `LAT=n` with `n` other than 1 or 2 stops the run, whatever follows -/
theorem lat_value_rejected (pre rest : List String) (acc : List Item) (v : String)
    (hpre : kwRun (.idle, []) pre = .ok (.wantLat, acc))
    (hv : (v.toInt? == some 1 || v.toInt? == some 2) = false) :
    parseKeywords (pre ++ v :: rest) = .error .badLat := by
  simp [parseKeywords, groupTokens, kwRun_append, hpre, kwRun, kwStep, hv, Except.map]

/-! ### a malformed `--lattice` argument (model `Text/LatticeArg` = `main.parse_lattice` / `parse_ranges`) -/

/-- **an option is accepted only with a cell number followed by one, two or three ranges** (comma-separated fields: the
number of fields is the number of ranges plus one) -/
theorem lattice_option_needs_one_to_three_ranges (opt : List Char) (cell : Int) (rs : List (Int × Int))
    (h : LA.parseOption opt = .ok (cell, rs)) :
    1 ≤ rs.length ∧ rs.length ≤ 3 ∧ (LA.splitOn ',' opt).length = rs.length + 1 := by
  unfold LA.parseOption at h
  split at h
  · cases h
  · cases h
  next head rest hrest heq =>
    split at h
    · cases h
    next hn =>
      -- a cell number and ranges that do not read are errors, too
      cases hp : LA.pyInt? head with
      | none => simp [hp] at h
      | some c =>
        cases hr : LA.parseRanges rest with
        | error e => simp [hp, hr] at h
        | ok rs' =>
          simp only [hp, hr, Except.ok.injEq, Prod.mk.injEq] at h
          obtain ⟨-, rfl⟩ := h
          have hl := LAP.parseRanges_length rest _ hr
          have : rest.length ≠ 0 := fun h0 => hrest (List.length_eq_zero_iff.mp h0)
          exact ⟨by omega, by omega, by rw [heq]; simp [hl]⟩

/-- **a range is accepted only with exactly two colon-separated bounds** -/
theorem lattice_range_needs_two_bounds (r : List Char) (x : Int × Int) (h : LA.parseRange r = .ok x) :
    (LA.splitOn ':' r).length = 2 := by
  unfold LA.parseRange at h
  split at h
  · rename_i a b heq; rw [heq]; rfl
  · simp at h

example : LA.parseLattice ["malformed".toList] = .error .noRanges := by
  simp only [String.reduceToList]; rfl
example : LA.parseLattice ["100,0:4,0:4,0:4,0:4".toList] = .error .tooMany := by
  simp only [String.reduceToList]; rfl

/-- **a FILL array with too few universes is rejected** when the cell options are read (`parse_fill_kw`): index
ranges with `need` elements, fewer plain numbers than that, then the end of the options -/
theorem fill_array_too_few_universes_rejected (star : Bool) (kw r : String) (rs us : List String) (need : Int)
    (hkw : startKeyword kw = .fillFirst star)
    (hr : contains r ":" = true) (hrs : ∀ x ∈ rs, contains x ":" = true)
    (hsz : rangesSize (r :: rs) = .ok need)
    (hus : ∀ u ∈ us, classifyU u = .num ∧ contains u ":" = false)
    (hlen : (us.length : Int) < need) :
    parseKeywords (kw :: r :: (rs ++ us)) = .error .arrayCount := by
  simp [parseKeywords, kw_fill_array_too_short star kw r rs us need hkw hr hrs hsz hus hlen, Except.map]

/-- **Surplus entries of a FILL array are not rejected when the cell options are read** (the model-level form of
findings F17a–c): whatever numbers follow the last expected universe are taken as the numeric arguments of the FILL
keyword — a transformation number when there is one of them, a translation when there are three — since the tokeniser
has already dropped the parentheses that would tell a transformation from further array entries -/
theorem fill_array_surplus_is_read_as_transformation (star : Bool) (kw r : String) (rs us extra : List String) (need : Int)
    (hkw : startKeyword kw = .fillFirst star)
    (hr : contains r ":" = true) (hrs : ∀ x ∈ rs, contains x ":" = true)
    (hsz : rangesSize (r :: rs) = .ok need)
    (hus : ∀ u ∈ us, classifyU u = .num ∧ contains u ":" = false)
    (hlen : (us.length : Int) = need) (hpos : 0 < need)
    (hex : ∀ p ∈ extra, numericLead p = true) :
    groupTokens (kw :: r :: (rs ++ us ++ extra)) = .ok [.fillArr star (r :: rs) us extra] := by
  unfold groupTokens
  rw [array_fill_reads star kw r rs us extra need [] hkw hr hrs hsz hus hlen hpos hex]
  simp [kwFinish]
-- no `example` for it: the kernel cannot evaluate `String.toNat?` inside `rangesSize`; `kwmodel fill 0:1 0:0 3 4 7` on
-- the driver answers `fill=A0,0:1;0:0,3;4,7`, and the tokens the `kwmodel` stream of C15 draws meet the hypotheses

end T4V.C17
