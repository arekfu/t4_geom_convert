import T4V.Model.Lattice
import T4V.Proofs.LatticeArg
import T4V.Spec.MCNP
import T4V.Proofs.V3
import Mathlib.Tactic.FieldSimp
/-!
# Property C06 — rectangular lattices: index order, fill array, lattice vectors

Model: `T4V.Model.Lattice` (`LatticeBounds.indices / size`, `LatticeSpec.items`, `latticeVector`,
`squareLatticeReciprocalVecs`, `latticeReciprocal`).  Spec: `indexBox` (all index tuples of the declared
ranges, first index fastest).
-/
namespace T4V.C06

theorem indexBox_snoc : ∀ (bs : List (Int × Int)) (t : Int × Int),
    indexBox (bs ++ [t]) = (rangeIncl t.1 t.2).flatMap fun e => (indexBox bs).map fun h => h ++ [e]
  | [], t => by
      obtain ⟨lo, hi⟩ := t
      simp only [List.nil_append, indexBox, rangeIncl, List.flatMap_cons, List.flatMap_nil, List.append_nil,
        List.map_cons, List.map_nil, List.flatMap_map]
      rw [List.map_eq_flatMap]
  | b :: bs, t => by
      obtain ⟨lo, hi⟩ := b
      have ih := indexBox_snoc bs t
      simp only [List.cons_append, indexBox, ih, List.flatMap_assoc, List.flatMap_map, List.map_flatMap,
        List.map_map, Function.comp_def]

/-- **Index order**: `LatticeBounds.indices` enumerates exactly the declared box, first index
fastest — the order in which MCNP reads the FILL array — for any number of ranges, negative and
degenerate ranges included. -/
theorem indices_first_index_fastest (bs : List (Int × Int)) (h : bs ≠ []) : latIndices bs = indexBox bs := by
  have key : ∀ (r : List (Int × Int)), r ≠ [] → indicesRev r = indexBox r.reverse := by
    intro r
    induction r with
    | nil => intro h; exact absurd rfl h
    | cons t rest ih =>
      intro _
      obtain ⟨lo, hi⟩ := t
      cases rest with
      | nil => simp [indicesRev, indexBox, rangeIncl]
      | cons t2 rest2 =>
        have := ih (by simp)
        rw [List.reverse_cons, indexBox_snoc]
        simp only [indicesRev, this]
  unfold latIndices
  rw [key bs.reverse (by simpa using h)]
  simp

/-- membership: an index tuple is generated iff every component lies in its declared range — no
element outside the declared ranges is generated, none inside is missing -/
theorem mem_indexBox : ∀ (bs : List (Int × Int)) (idx : List Int),
    idx ∈ indexBox bs ↔ idx.length = bs.length ∧ ∀ k (hk : k < bs.length) (hk' : k < idx.length),
      bs[k].1 ≤ idx[k] ∧ idx[k] ≤ bs[k].2
  | [], idx => by
      simp only [indexBox, List.mem_singleton, List.length_nil]
      constructor
      · rintro rfl; exact ⟨rfl, fun k hk => absurd hk (by simp)⟩
      · rintro ⟨h, _⟩; exact List.eq_nil_of_length_eq_zero h
  | (lo, hi) :: rest, idx => by
      have ih := mem_indexBox rest
      simp only [indexBox, List.mem_flatMap, List.mem_map, List.mem_range]
      constructor
      · rintro ⟨tl, htl, i, hi', rfl⟩
        obtain ⟨hl, hb⟩ := (ih tl).mp htl
        refine ⟨by simp [hl], ?_⟩
        intro k hk hk'
        cases k with
        | zero =>
          simp only [List.getElem_cons_zero]
          have : (i : Int) < (hi - lo + 1).toNat := by exact_mod_cast hi'
          simp only [Int.ofNat_eq_natCast]
          constructor <;> omega
        | succ k =>
          simp only [List.getElem_cons_succ]
          exact hb k (by simpa using hk) (by simpa using hk')
      · rintro ⟨hl, hb⟩
        cases idx with
        | nil => simp at hl
        | cons x tl =>
          have h0 := hb 0 (by simp) (by simp)
          simp only [List.getElem_cons_zero] at h0
          refine ⟨tl, (ih tl).mpr ⟨by simpa using hl, fun k hk hk' => ?_⟩, (x - lo).toNat, ?_, ?_⟩
          · have := hb (k + 1) (by simpa using hk) (by simpa using hk')
            simpa using this
          · omega
          · have : ((x - lo).toNat : Int) = x - lo := by omega
            simp only [Int.ofNat_eq_natCast, this]; congr 1; omega

/-- the fill array is consumed in that order: element number `i` of the array belongs to the `i`-th
index tuple (`LatticeSpec.items` = zip) -/
theorem items_zip {β} (bs : List (Int × Int)) (spec : List β) (h : bs ≠ []) :
    latItems bs spec = (indexBox bs).zip spec := by
  unfold latItems; rw [indices_first_index_fastest bs h]

section
variable {α : Type} [Field α]

/-- dual basis in one dimension -/
theorem reciprocal_1d (v : V3 α) (h : v.dot v ≠ 0) :
    ∃ r, latticeReciprocal [v] = some [r] ∧ r.dot v = 1 :=
  ⟨_, rfl, by rw [V3.dot_smul_left]; exact one_div_mul_cancel h⟩

/-- dual basis in two dimensions: `rᵢ · vⱼ = δᵢⱼ` (Cramer's rule on the Gram matrix) -/
theorem reciprocal_2d (v1 v2 : V3 α) (h : v1.norm2 * v2.norm2 - v1.dot v2 * v1.dot v2 ≠ 0) :
    ∃ r1 r2, latticeReciprocal [v1, v2] = some [r1, r2] ∧
      r1.dot v1 = 1 ∧ r1.dot v2 = 0 ∧ r2.dot v1 = 0 ∧ r2.dot v2 = 1 ∧
      (v1.cross v2).dot r1 = 0 ∧ (v1.cross v2).dot r2 = 0 := by
  refine ⟨_, _, rfl, ?_, ?_, ?_, ?_, ?_, ?_⟩
  all_goals
    simp only [V3.dot_add_left, V3.dot_add_right, V3.dot_smul_left, V3.dot_smul_right, V3.cross_dot_left,
      V3.cross_dot_right, V3.norm2_eq, V3.dot_comm v2 v1, mul_zero, add_zero] at h ⊢
  all_goals
    generalize v1.dot v1 = a at h ⊢
    generalize v2.dot v2 = b at h ⊢
    generalize v1.dot v2 = c at h ⊢
    generalize hden : a * b - c * c = den at h ⊢
    field_simp
    rw [← hden]
    ring

/-- dual basis in three dimensions: `rᵢ · vⱼ = δᵢⱼ` (vector products over the triple product); `h3`: the code divides
`1 + 1 + 1` by the sum of the three equal triple products, and `α` is a bare field -/
theorem reciprocal_3d (v1 v2 v3 : V3 α) (h : v1.dot (v2.cross v3) ≠ 0) (h3 : (3 : α) ≠ 0) :
    ∃ r1 r2 r3, latticeReciprocal [v1, v2, v3] = some [r1, r2, r3] ∧
      r1.dot v1 = 1 ∧ r1.dot v2 = 0 ∧ r1.dot v3 = 0 ∧
      r2.dot v1 = 0 ∧ r2.dot v2 = 1 ∧ r2.dot v3 = 0 ∧
      r3.dot v1 = 0 ∧ r3.dot v2 = 0 ∧ r3.dot v3 = 1 := by
  -- the three triple products of the code are one number
  have hT2 : v2.dot (v3.cross v1) = v1.dot (v2.cross v3) := (V3.triple_cycle v1 v2 v3).symm
  have hT3 : v3.dot (v1.cross v2) = v1.dot (v2.cross v3) := (V3.triple_cycle v2 v3 v1).symm.trans hT2
  have key : (1 + 1 + 1) / (v1.dot (v2.cross v3) + v1.dot (v2.cross v3) + v1.dot (v2.cross v3)) *
      v1.dot (v2.cross v3) = 1 := by
    generalize v1.dot (v2.cross v3) = T at h
    have : (1 + 1 + 1 : α) = 3 := by norm_num
    rw [this, show T + T + T = 3 * T by ring]
    field_simp
  refine ⟨_, _, _, rfl, ?_, ?_, ?_, ?_, ?_, ?_, ?_, ?_, ?_⟩
  · rw [V3.dot_smul_left, V3.cross_dot_eq, hT2, hT3]; exact key
  · rw [V3.dot_smul_left, V3.cross_dot_left, mul_zero]
  · rw [V3.dot_smul_left, V3.cross_dot_right, mul_zero]
  · rw [V3.dot_smul_left, V3.cross_dot_right, mul_zero]
  · rw [V3.dot_smul_left, V3.cross_dot_eq, hT2, hT3]; exact key
  · rw [V3.dot_smul_left, V3.cross_dot_left, mul_zero]
  · rw [V3.dot_smul_left, V3.cross_dot_left, mul_zero]
  · rw [V3.dot_smul_left, V3.cross_dot_right, mul_zero]
  · rw [V3.dot_smul_left, V3.cross_dot_eq, hT2, hT3]; exact key

/-- the reciprocal vector of a pair does not depend on the orientation chosen for the normal -/
theorem recip_orient (n p : V3 α) (s : Int) :
    V3.smul (1 / p.dot (if s == 1 then V3.smul (-1) n else n)) (if s == 1 then V3.smul (-1) n else n) =
      V3.smul (1 / p.dot n) n := by
  split
  · rw [V3.dot_smul_right, V3.smul_smul]; congr 1; ring
  · rfl

/-- `x` dual to the reciprocal vector `N / (N·(p − q))` of a pair carries the plane through `q` onto the one
through `p` -/
theorem dual_carries (N x p q : V3 α) (hd : (p.sub q).dot N ≠ 0)
    (hx : x.dot (V3.smul (1 / (p.sub q).dot N) N) = 1) : N.dot ((q.add x).sub p) = 0 := by
  rw [V3.dot_smul_right, V3.dot_comm x N] at hx
  have h1 : N.dot x = (p.sub q).dot N := by field_simp at hx; exact hx
  rw [V3.dot_sub_right, V3.dot_add_right, h1, V3.dot_comm (p.sub q) N, V3.dot_sub_right]; ring

theorem dual_parallel (N x : V3 α) (c : α) (hc : c ≠ 0) (hx : x.dot (V3.smul c N) = 0) : N.dot x = 0 := by
  rw [V3.dot_smul_right, V3.dot_comm x N] at hx
  exact (mul_eq_zero.mp hx).resolve_left hc

-- the hypotheses of `squareBase_2d/_3d` speak of the normals `N`, the code works with `N / (N·(p − q))`
theorem gram_smul (c1 c2 : α) (N1 N2 : V3 α) :
    (V3.smul c1 N1).norm2 * (V3.smul c2 N2).norm2 -
        (V3.smul c1 N1).dot (V3.smul c2 N2) * (V3.smul c1 N1).dot (V3.smul c2 N2) =
      (c1 * c1 * (c2 * c2)) * (N1.norm2 * N2.norm2 - N1.dot N2 * N1.dot N2) := by
  simp only [V3.norm2_eq, V3.dot_smul_left, V3.dot_smul_right]; ring

theorem cross_dot_of_smul (c1 c2 : α) (N1 N2 x : V3 α) (h1 : c1 ≠ 0) (h2 : c2 ≠ 0)
    (h : ((V3.smul c1 N1).cross (V3.smul c2 N2)).dot x = 0) : (N1.cross N2).dot x = 0 := by
  rw [V3.cross_smul_left, V3.cross_smul_right, V3.dot_smul_left, V3.dot_smul_left] at h
  exact (mul_eq_zero.mp ((mul_eq_zero.mp h).resolve_left h1)).resolve_left h2

theorem triple_smul_ne (c1 c2 c3 : α) (N1 N2 N3 : V3 α) (h1 : c1 ≠ 0) (h2 : c2 ≠ 0) (h3 : c3 ≠ 0)
    (h : N1.dot (N2.cross N3) ≠ 0) : (V3.smul c1 N1).dot ((V3.smul c2 N2).cross (V3.smul c3 N3)) ≠ 0 := by
  rw [V3.cross_smul_left, V3.cross_smul_right, V3.dot_smul_left, V3.dot_smul_right, V3.dot_smul_right]
  exact mul_ne_zero h1 (mul_ne_zero h2 (mul_ne_zero h3 h))

/-- one pair of planes `(p₁, n)`, `(p₂, ·)`: the base vector `a` carries the second plane onto the
first: `n · (p₂ + a − p₁) = 0` (whichever orientation the first-listed reference has), and is normal to the planes -/
theorem squareBase_1d (p1 n1 p2 n2 : V3 α) (s1 s2 : Int)
    (hn : n1.dot n1 ≠ 0) (hd : (p1.sub p2).dot n1 ≠ 0) :
    ∃ a, squareBaseVectors [((p1, n1), s1), ((p2, n2), s2)] = some [a] ∧
      n1.dot ((p2.add a).sub p1) = 0 ∧ n1.cross a = V3.zero := by
  have hV : (V3.smul (1 / (p1.sub p2).dot n1) n1).dot (V3.smul (1 / (p1.sub p2).dot n1) n1) ≠ 0 := by
    rw [V3.dot_smul_left, V3.dot_smul_right]
    exact mul_ne_zero (one_div_ne_zero hd) (mul_ne_zero (one_div_ne_zero hd) hn)
  obtain ⟨a, ha, hdual⟩ := reciprocal_1d _ hV
  refine ⟨a, ?_, dual_carries _ a p1 p2 hd hdual, ?_⟩
  · exact (congrArg (fun v => latticeReciprocal [v]) (recip_orient n1 (p1.sub p2) s1)).trans ha
  · cases ha
    rw [V3.smul_smul]
    exact V3.cross_self_smul _ _

/-- **two pairs of planes**: the base vector of each pair carries its second plane onto its first and is parallel
to the planes of the other pair (so the unit cell moved by `i·a + j·b` is the `(i, j)`-th cell of the grid of planes);
both lie in the plane of the two normals — they have no component along the axis of the infinite prism, along which a
filling universe would otherwise slide -/
theorem squareBase_2d (p1 n1 p2 n2 q1 m1 q2 m2 : V3 α) (s1 s2 t1 t2 : Int)
    (hd1 : (p1.sub p2).dot n1 ≠ 0) (hd2 : (q1.sub q2).dot m1 ≠ 0)
    (hnp : n1.norm2 * m1.norm2 - n1.dot m1 * n1.dot m1 ≠ 0) :
    ∃ a b, squareBaseVectors [((p1, n1), s1), ((p2, n2), s2), ((q1, m1), t1), ((q2, m2), t2)] = some [a, b] ∧
      n1.dot ((p2.add a).sub p1) = 0 ∧ m1.dot a = 0 ∧ m1.dot ((q2.add b).sub q1) = 0 ∧ n1.dot b = 0 ∧
      (n1.cross m1).dot a = 0 ∧ (n1.cross m1).dot b = 0 := by
  have hc1 := one_div_ne_zero hd1
  have hc2 := one_div_ne_zero hd2
  obtain ⟨a, b, hab, ha1, ha2, hb1, hb2, hpa, hpb⟩ := reciprocal_2d
    (V3.smul (1 / (p1.sub p2).dot n1) n1) (V3.smul (1 / (q1.sub q2).dot m1) m1)
    (by rw [gram_smul]; exact mul_ne_zero (mul_ne_zero (mul_ne_zero hc1 hc1) (mul_ne_zero hc2 hc2)) hnp)
  refine ⟨a, b, ?_, dual_carries _ a p1 p2 hd1 ha1, dual_parallel _ a _ hc2 ha2, dual_carries _ b q1 q2 hd2 hb2,
    dual_parallel _ b _ hc1 hb1, cross_dot_of_smul _ _ _ _ a hc1 hc2 hpa, cross_dot_of_smul _ _ _ _ b hc1 hc2 hpb⟩
  exact (congrArg₂ (fun v w => latticeReciprocal [v, w]) (recip_orient n1 (p1.sub p2) s1)
    (recip_orient m1 (q1.sub q2) t1)).trans hab

/-- **three pairs of planes**: each base vector carries the second plane of its pair onto the first and is parallel to
the planes of the two other pairs -/
theorem squareBase_3d (p1 n1 p2 n2 q1 m1 q2 m2 w1 k1 w2 k2 : V3 α) (s1 s2 t1 t2 u1 u2 : Int)
    (hd1 : (p1.sub p2).dot n1 ≠ 0) (hd2 : (q1.sub q2).dot m1 ≠ 0) (hd3 : (w1.sub w2).dot k1 ≠ 0)
    (hnp : n1.dot (m1.cross k1) ≠ 0) (h3 : (3 : α) ≠ 0) :
    ∃ a b c, squareBaseVectors [((p1, n1), s1), ((p2, n2), s2), ((q1, m1), t1), ((q2, m2), t2),
        ((w1, k1), u1), ((w2, k2), u2)] = some [a, b, c] ∧
      n1.dot ((p2.add a).sub p1) = 0 ∧ m1.dot a = 0 ∧ k1.dot a = 0 ∧
      m1.dot ((q2.add b).sub q1) = 0 ∧ n1.dot b = 0 ∧ k1.dot b = 0 ∧
      k1.dot ((w2.add c).sub w1) = 0 ∧ n1.dot c = 0 ∧ m1.dot c = 0 := by
  have hc1 := one_div_ne_zero hd1
  have hc2 := one_div_ne_zero hd2
  have hc3 := one_div_ne_zero hd3
  obtain ⟨a, b, c, habc, a1, a2, a3, b1, b2, b3, c1, c2, c3⟩ := reciprocal_3d _ _ _
    (triple_smul_ne _ _ _ _ _ _ hc1 hc2 hc3 hnp) h3
  refine ⟨a, b, c, ?_, dual_carries _ a p1 p2 hd1 a1, dual_parallel _ a _ hc2 a2, dual_parallel _ a _ hc3 a3,
    dual_carries _ b q1 q2 hd2 b2, dual_parallel _ b _ hc1 b1, dual_parallel _ b _ hc3 b3,
    dual_carries _ c w1 w2 hd3 c3, dual_parallel _ c _ hc1 c1, dual_parallel _ c _ hc2 c2⟩
  rw [← habc, ← recip_orient n1 (p1.sub p2) s1, ← recip_orient m1 (q1.sub q2) t1, ← recip_orient k1 (w1.sub w2) u1]
  rfl
end

example : latIndices [(-1, 1), (-2, 2)] =
    [[-1, -2], [0, -2], [1, -2], [-1, -1], [0, -1], [1, -1], [-1, 0], [0, 0], [1, 0], [-1, 1], [0, 1], [1, 1],
     [-1, 2], [0, 2], [1, 2]] := by decide

/-! ### the ranges of `--lattice` -/

/-- **`--lattice cell,i_min:i_max[,j_min:j_max[,k_min:k_max]]` is read as written**: the cell number and the one to
three ranges, in order, for all integers (negative and degenerate ranges included) -/
theorem lattice_option_read_as_written (cell : Int) (rs : List (Int × Int)) (h1 : 1 ≤ rs.length) (h3 : rs.length ≤ 3) :
    LA.parseOption (LAP.optionText cell rs) = .ok (cell, rs) :=
  LAP.parseOption_optionText cell rs h1 h3

example : LAP.optionText 200 [(2, 5), (-4, 4)] = "200,2:5,-4:4".toList := by decide

end T4V.C06
