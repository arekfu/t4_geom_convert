import T4V.Model.Comp
import T4V.Model.Composition
import T4V.Proofs.CompModel
import T4V.Proofs.NormFloat
import T4V.Spec.Comp
import Mathlib.Tactic.FieldSimp
import Mathlib.Tactic.Ring
/-!
# Property C10 — material cards become compositions with the same nuclides and amounts
-/
namespace T4V.C10

/-! ### the spec side (`Model/Comp.lean`, `Spec/Comp.lean`): what a composition is expected to hold -/

section Rescale
variable {α : Type} [Field α]

theorem sumList_map_scale (c : α) : ∀ l : List α, sumList (l.map fun f => f * c) = sumList l * c
  | [] => by simp [sumList]
  | a :: l => by
      have ih := sumList_map_scale c l
      simp only [sumList, List.map_cons, List.foldr_cons] at ih ⊢
      rw [ih]; ring

/-- **atom density**: the concentrations sum to the cell density -/
theorem concentrations_sum (fr : List α) (rho : α) (h : sumList fr ≠ 0) :
    sumList (rescaleFractions fr rho) = rho := by
  unfold rescaleFractions
  have : (fr.map fun f => f * rho / sumList fr) = fr.map fun f => f * (rho / sumList fr) := by
    congr 1; funext f; ring
  rw [this, sumList_map_scale]
  field_simp

/-- **atom density**: the concentrations are proportional to the atom fractions of the card -/
theorem concentrations_proportional (fr : List α) (rho : α) (i j : Nat) (fi fj : α)
    (hi : fr[i]? = some fi) (hj : fr[j]? = some fj) :
    ∃ ci cj, (rescaleFractions fr rho)[i]? = some ci ∧ (rescaleFractions fr rho)[j]? = some cj ∧
      ci * fj = cj * fi := by
  refine ⟨fi * rho / sumList fr, fj * rho / sumList fr, ?_, ?_, by ring⟩
  · rw [rescaleFractions, List.getElem?_map, hi]; rfl
  · rw [rescaleFractions, List.getElem?_map, hj]; rfl
end Rescale

theorem compExpected_ok (tokens : List String) (e : CompExpect) (h : compExpected tokens = .ok e) :
    ∃ z0 f0 rest, matEntries tokens = (z0, f0) :: rest ∧
      (matEntries tokens).mapM (fun x => nuclideName? x.1) = some e.nuclides ∧
      e.atomFracs = !isNegLit f0 ∧ e.fractions = (matEntries tokens).map (absLit ·.2) := by
  unfold compExpected at h
  cases hm : matEntries tokens with
  | nil => simp [hm] at h
  | cons x rest =>
    obtain ⟨z0, f0⟩ := x
    simp only [hm] at h
    split at h
    · simp at h
    · cases hn : List.mapM (fun e => nuclideName? e.1) ((z0, f0) :: rest) with
      | none => simp [hn] at h
      | some ns =>
        simp only [hn, Except.ok.injEq] at h
        subst h
        -- a plain `rfl` unfolds `isNegLit` before it reduces the projection
        exact ⟨z0, f0, rest, rfl, rfl, by with_reducible rfl, rfl⟩

/-- the nuclide list follows the card: one entry per (ZAID, fraction) pair, in order, keyword entries
(`nlib=…`) skipped and library suffixes dropped -/
theorem nuclides_in_card_order (tokens : List String) (e : CompExpect) (h : compExpected tokens = .ok e) :
    (matEntries tokens).mapM (fun x => nuclideName? x.1) = some e.nuclides ∧
    e.fractions = (matEntries tokens).map (absLit ·.2) := by
  obtain ⟨_, _, _, _, hn, _, hf⟩ := compExpected_ok tokens e h
  exact ⟨hn, hf⟩

/-- the NB_ATOM flag is set exactly when the card's fractions are positive -/
theorem atom_flag_iff_positive (tokens : List String) (e : CompExpect) (z0 f0 : String)
    (rest : List (String × String)) (hm : matEntries tokens = (z0, f0) :: rest)
    (h : compExpected tokens = .ok e) : e.atomFracs = !isNegLit f0 := by
  obtain ⟨_, _, _, hm', _, ha, _⟩ := compExpected_ok tokens e h
  rw [hm] at hm'
  cases hm'
  exact ha

/-- mass number 000 designates the natural element; otherwise the name is symbol ++ mass number, with
the symbol of the periodic table for Z -/
theorem natural_element (z : Nat) (sym : String) (h : elementSymbol? z = some sym) :
    nuclideOf z 0 = some (sym ++ "-NAT") := by
  simp [nuclideOf, h]

theorem isotope_name (z a : Nat) (sym : String) (h : elementSymbol? z = some sym) (ha : a ≠ 0) :
    nuclideOf z a = some (sym ++ toString a) := by
  simp [nuclideOf, h, ha]

example : elementSymbol? 92 = some "U" := by decide
example : elementSymbol? 8 = some "O" := by decide
example : elementSymbols.length = 118 := by decide

/-! ### the pipeline model (`Model/Composition.lean`): cards → pairs → names and amounts → compositions -/
open T4V.CM

/-- an entry of a material card as the manual describes it: a keyword entry `key=value`, or a ZAID and its fraction -/
inductive Entry
  | kw (k : List Char)
  | pair (z f : List Char)

def Entry.tokens : Entry → List (List Char)
  | .kw k => [k]
  | .pair z f => [z, f]

def Entry.pair? : Entry → Option (List Char × List Char)
  | .kw _ => none
  | .pair z f => some (beforeDot z, f)

theorem pairs_kw {k : List Char} (hk : k.contains '=' = true) : ∀ ts, pairs (k :: ts) = pairs ts
  | [] => by simp only [pairs, hk, if_true]
  | _ :: _ => by simp only [pairs, hk, if_true]

/-- **the composition lists exactly the card's (ZAID, fraction) pairs in order; keyword entries, wherever they stand,
are ignored and the library suffix is dropped** -/
theorem keyword_entries_ignored : ∀ (es : List Entry),
    (∀ k, Entry.kw k ∈ es → k.contains '=' = true) → (∀ z f, Entry.pair z f ∈ es → z.contains '=' = false) →
    pairs (es.flatMap Entry.tokens) = .ok (es.filterMap Entry.pair?)
  | [], _, _ => rfl
  | e :: es, hk, hz => by
    have ih := keyword_entries_ignored es (fun k h => hk k (List.mem_cons_of_mem _ h))
      (fun z f h => hz z f (List.mem_cons_of_mem _ h))
    cases e with
    | kw k =>
      simp only [List.flatMap_cons, Entry.tokens, List.cons_append, List.nil_append, List.filterMap_cons, Entry.pair?]
      rw [pairs_kw (hk k List.mem_cons_self)]
      exact ih
    | pair z f =>
      simp only [List.flatMap_cons, Entry.tokens, List.cons_append, List.nil_append, List.filterMap_cons, Entry.pair?]
      simp only [pairs, hz z f List.mem_cons_self, Bool.false_eq_true, if_false, ih]

/-- **a ZAID is 1000·Z + A** with `A < 1000` and `Z` an element (1 … 118); what follows a point (the library suffix)
plays no part -/
theorem zaid_decomposition (zaid : List Char) (z a : Nat) (h : isoParts zaid = .ok (z, a)) :
    digitsNat (beforeDot zaid) = 1000 * z + a ∧ a < 1000 ∧ 1 ≤ z ∧ z ≤ 118 := by
  unfold isoParts at h
  simp only at h
  split at h
  · simp at h
  · rename_i a' ha
    split at h
    · simp at h
    · rename_i z' hz
      obtain ⟨hr, h⟩ := ok_of_guard h
      simp only [Except.ok.injEq, Prod.mk.injEq] at h
      obtain ⟨rfl, rfl⟩ := h
      -- the last three characters are A, what stands before them is Z; Z is not empty since `pyInt?` read it
      obtain ⟨hne_a, hda, rfl⟩ := pyInt_spec _ _ ha
      obtain ⟨hne_z, hdz, rfl⟩ := pyInt_spec _ _ hz
      have hlen : 4 ≤ (beforeDot zaid).length := by
        by_contra hl
        apply hne_z
        have : (beforeDot zaid).length - 3 = 0 := by omega
        rw [this]; rfl
      have hdl : (List.drop ((beforeDot zaid).length - 3) (beforeDot zaid)).length = 3 := by
        rw [List.length_drop]; omega
      -- the number read from the whole is that of Z shifted by three digits, plus A < 1000
      have hsplit := NF.digitsNat_append (List.take ((beforeDot zaid).length - 3) (beforeDot zaid))
        (List.drop ((beforeDot zaid).length - 3) (beforeDot zaid))
      rw [List.take_append_drop, hdl] at hsplit
      have hlt := NF.digitsNat_lt _ hda
      rw [hdl] at hlt
      simp only [Bool.or_eq_true, beq_iff_eq, decide_eq_true_eq, not_or, Nat.not_lt] at hr
      refine ⟨by rw [hsplit]; omega, by omega, by omega, hr.2⟩

/-- mass number 000 designates the natural element -/
theorem natural_element_name (z : Nat) : isoName z 0 = symbols.getD (z - 1) "?" ++ "-NAT" := rfl

theorem isotope_name_mass (z a : Nat) (ha : a ≠ 0) : isoName z a = symbols.getD (z - 1) "?" ++ toString a := by
  simp [isoName, ha]

/-- the model's table of symbols is the reference table -/
theorem symbols_are_the_reference_table : CM.symbols = elementSymbols := rfl

theorem convLoop_spec (pos : Bool) : ∀ (ps : List (List Char × List Char)) (ns : List (String × List Char)),
    convLoop pos ps = .ok ns →
      (∀ p ∈ ps, (!isNeg p.2) = pos) ∧
      List.Forall₂ (fun p iso => ∃ z a, isoParts p.1 = .ok (z, a) ∧ iso = (isoName z a, normalizeFloat (strFabs p.2))) ps ns
  | [], ns, h => by
    simp only [convLoop, Except.ok.injEq] at h
    subst h
    exact ⟨List.forall_mem_nil _, List.Forall₂.nil⟩
  | (zaid, f) :: r, ns, h => by
    obtain ⟨hs, _, z, a, ns', hz, hr, rfl⟩ := convLoop_cons_ok h
    obtain ⟨ih1, ih2⟩ := convLoop_spec pos r ns' hr
    exact ⟨List.forall_mem_cons.mpr ⟨hs, ih1⟩, List.Forall₂.cons ⟨z, a, hz, rfl⟩ ih2⟩

/-- **cards mixing signs are rejected, and the fractions are flagged as atom fractions exactly when the entries are
positive**: whenever a card is converted, every one of its entries has the sign the flag says -/
theorem signs_agree_with_flag (ps : List (List Char × List Char)) (ab : Abund) (h : convCard ps = .ok ab) :
    ∀ p ∈ ps, (!isNeg p.2) = ab.atomFracs :=
  (convLoop_spec _ _ _ (convCard_ok h)).1

theorem mixed_signs_rejected (ps : List (List Char × List Char)) (p q : List Char × List Char) (hp : p ∈ ps) (hq : q ∈ ps)
    (hne : isNeg p.2 ≠ isNeg q.2) : ∃ e, convCard ps = .error e := by
  cases h : convCard ps with
  | error e => exact ⟨e, rfl⟩
  | ok ab =>
    have h1 := signs_agree_with_flag ps ab h p hp
    have h2 := signs_agree_with_flag ps ab h q hq
    exfalso; apply hne
    have : (!isNeg p.2) = !isNeg q.2 := h1.trans h2.symm
    simpa using this

/-- **the nuclides of the card in order, each named after its ZAID, each with the absolute value of its fraction
(spelled as a plain number)** -/
theorem nuclides_in_card_order_model (ps : List (List Char × List Char)) (ab : Abund) (h : convCard ps = .ok ab) :
    List.Forall₂ (fun p iso => ∃ z a, isoParts p.1 = .ok (z, a) ∧ iso = (isoName z a, normalizeFloat (strFabs p.2)))
      ps ab.isotopes :=
  (convLoop_spec _ _ _ (convCard_ok h)).2

/-- **a mass density takes the card's fractions as they are** (with the flag of the card); an atom density takes the
same nuclides in the same order (their amounts are the rescaled concentrations), and none when the card gives mass
fractions; every composition carries the name of its material -/
theorem compositions_follow_the_card (key : Nat) (ab : Abund) : ∀ (cells : List CCell) (seen : List (List Char)) (cs : List Comp),
    compsOf key ab cells seen = .ok cs → ∀ c ∈ cs, c.name = "m" ++ toString key ∧
      (c.kind = "DENSITY" → c.isotopes = ab.isotopes ∧ c.nbAtom = ab.atomFracs) ∧
      (c.kind = "POINT_WISE" → c.isotopes.map (·.1) = if ab.atomFracs then ab.isotopes.map (·.1) else []) := by
  intro cells seen cs h c hc
  obtain ⟨cell, _, neg, _, rfl⟩ := (compsOf_mem key ab cells seen cs h).1 c hc
  cases neg
  · cases hf : ab.atomFracs
    · simp [compOf, hf]
    · simp [compOf, hf, Function.comp_def]
  · simp [compOf]

/-- **every converted cell finds its composition**: a live cell that uses the material gets a composition of that
material with the cell's density literal (normalised) — the name GEOMCOMP files its volumes under -/
theorem every_used_density_has_a_composition (key : Nat) (ab : Abund) : ∀ (cells : List CCell) (seen : List (List Char)) (cs : List Comp),
    compsOf key ab cells seen = .ok cs → ∀ cell ∈ cells, cell.live = true → cell.mat = key → cell.density ∉ seen →
      ∃ c ∈ cs, c.name = "m" ++ toString key ∧ c.density = normalizeFloat cell.density := by
  intro cells seen cs h cell hc hl hm hs
  obtain ⟨neg, hn⟩ := (compsOf_mem key ab cells seen cs h).2 cell hc hl hm hs
  refine ⟨_, hn, ?_⟩
  cases neg <;> exact ⟨rfl, rfl⟩

example : isoParts "92235.70c".toList = .ok (92, 235) := by simp only [String.reduceToList]; decide
example : isoParts "1001".toList = .ok (1, 1) := by simp only [String.reduceToList]; decide
example : isoParts "26000".toList = .ok (26, 0) := by simp only [String.reduceToList]; decide
example : isoParts "119000".toList = .error .attr := by simp only [String.reduceToList]; decide
example : isoParts "235".toList = .error .value := by simp only [String.reduceToList]; decide
example : isoName 92 235 = "U235" := by decide
example : isoName 26 0 = "FE-NAT" := by decide
example : convCard [("1001".toList, "2".toList), ("8016".toList, "-1".toList)] = .error .mixed := by simp only [String.reduceToList]; decide

end T4V.C10
