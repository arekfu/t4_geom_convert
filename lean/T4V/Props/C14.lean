import T4V.Text.Lex
import T4V.Text.Blocks
import T4V.Proofs.CellCard
import T4V.Proofs.OptTokens
/-!
# Property C14 — output does not depend on MCNP-insignificant formatting of the deck

Model: `T4V.Lex` (`get_cards(skipcomments=True)`, `is_continuation`, `expand_tabs`, `Card.content`).
Everything downstream of `Card.content` splits the one-line content at white space (`str.split`), so what a
card means to the converter is the word sequence of its content.
-/
namespace T4V.C14
open T4V.Lex

/-- `str.split()`: maximal runs of non-blank characters (`cur` = the word being read, reversed).  The same function as
`CC.splitWs` (the tokeniser model, a right fold over `CC.cws`) and `T4V.words` (the reader of the written file); it is
written once more here, from the left and over `Lex.isWs` (the same six characters as `CC.cws`), for the statement of
`content_words`. -/
def wordsAux : List Char → List Char → List (List Char)
  | cur, [] => if cur.isEmpty then [] else [cur.reverse]
  | cur, c :: rest =>
      if isWs c then (if cur.isEmpty then wordsAux [] rest else cur.reverse :: wordsAux [] rest)
      else wordsAux (c :: cur) rest

def words (s : List Char) : List (List Char) := wordsAux [] s

theorem wordsAux_append_blank (b : List Char) : ∀ (a cur : List Char),
    wordsAux cur (a ++ ' ' :: b) = wordsAux cur a ++ words b
  | [], cur => by
      have : isWs ' ' = true := by decide
      by_cases h : cur.isEmpty <;> simp [wordsAux, words, this, h]
  | c :: a, cur => by
      have ih := wordsAux_append_blank b a
      by_cases hc : isWs c = true
      · by_cases h : cur.isEmpty <;> simp [wordsAux, hc, h, ih []]
      · simp [wordsAux, hc, ih (c :: cur)]

theorem words_append_blank (a b : List Char) : words (a ++ ' ' :: b) = words a ++ words b :=
  wordsAux_append_blank b a []

/-- `inWs = true → cur = []` (inside a run of blanks no word is open) is the invariant that carries the induction -/
theorem wordsAux_collapse : ∀ (s : List Char) (inWs : Bool) (cur : List Char), (inWs = true → cur = []) →
    wordsAux cur (collapseAux inWs s) = wordsAux cur s
  | [], _, _, _ => by simp [collapseAux]
  | c :: rest, inWs, cur, h => by
      have hsp : isWs ' ' = true := by decide
      by_cases hc : isWs c = true
      · -- a blank closes the word (if one is open); what follows is read inside a run of blanks
        have ih := wordsAux_collapse rest true [] (fun _ => rfl)
        cases inWs with
        | true =>
          have hcur := h rfl
          subst hcur
          simp [collapseAux, hc, wordsAux, ih]
        | false =>
          by_cases he : cur.isEmpty <;> simp [collapseAux, hc, wordsAux, hsp, he, ih]
      · have ih := wordsAux_collapse rest false (c :: cur) (by simp)
        simp [collapseAux, hc, wordsAux, ih]

theorem words_collapse (s : List Char) : words (collapse s) = words s :=
  wordsAux_collapse s false [] (by simp)

theorem words_join : ∀ (ps : List (List Char)), words ((ps.intersperse [' ']).flatten) = ps.flatMap words
  | [] => rfl
  | [p] => by simp
  | p :: q :: rest => by
      have ih := words_join (q :: rest)
      have e : ((p :: q :: rest).intersperse [' ']).flatten = p ++ ' ' :: ((q :: rest).intersperse [' ']).flatten := by
        simp [List.intersperse]
      rw [e, words_append_blank, ih]
      simp

theorem truncate_append (a b : List Char) (h : hasMarker a = false) : truncate (a ++ b) = a ++ truncate b :=
  List.takeWhile_append_of_pos fun c hc => by
    simpa [Bool.or_eq_false_iff] using List.any_eq_false.mp h c hc

theorem truncate_of_no_marker (l : List Char) (h : hasMarker l = false) : truncate l = l := by
  simpa [truncate] using truncate_append l [] h

/-- **what a card means**: the word sequence of `Card.content` is, line after line, the words standing
before the first `$` or `&` of the line -/
theorem content_words (card : List (List Char)) :
    words (content card) = card.flatMap fun l => words (truncate l) := by
  unfold content
  simp only [words_collapse, words_join, List.flatMap_assoc]
  congr 1
  funext l
  by_cases h : hasMarker l = true
  · simp [h, words, wordsAux]
  · have h' : hasMarker l = false := by simpa using h
    simp [h', truncate_of_no_marker l h']

theorem truncate_dollar_comment (l c : List Char) : truncate (l ++ '$' :: c) = truncate l := by
  unfold truncate
  induction l with
  | nil => simp
  | cons x rest ih =>
    by_cases hx : (x != '$' && x != '&') = true
    · simp only [List.cons_append, List.takeWhile_cons, hx, if_true, ih]
    · simp [hx]

theorem dollar_comment_immaterial (pre post : List (List Char)) (l c : List Char) :
    words (content (pre ++ [l ++ '$' :: c] ++ post)) = words (content (pre ++ [l] ++ post)) := by
  simp only [content_words, List.flatMap_append, List.flatMap_cons, List.flatMap_nil, truncate_dollar_comment]

/-- blank space: lines with the same words before their first marker give the same card
(amount and kind of white space, tabs, trailing blanks) -/
theorem spacing_immaterial (card card' : List (List Char))
    (h : card.map (fun l => words (truncate l)) = card'.map (fun l => words (truncate l))) :
    words (content card) = words (content card') := by
  simp only [content_words, List.flatMap_def, h]

/-- continuation by a trailing `&` or by leading blanks: the same words -/
theorem continuation_forms_agree (l1 l2 : List Char) (h : hasMarker l1 = false) :
    words (content [l1 ++ [' ', '&'], l2]) = words (content [l1, List.replicate 5 ' ' ++ l2]) := by
  simp only [content_words, List.flatMap_cons, List.flatMap_nil, List.append_nil]
  rw [truncate_append l1 _ h, truncate_append (List.replicate 5 ' ') l2 (by decide), truncate_of_no_marker l1 h]
  -- the blank left in front of the `&` ends a word and begins none; nor do the five blanks in front of `l2`
  have e : words (l1 ++ [' ']) = words l1 := by simpa [words, wordsAux] using words_append_blank l1 []
  rw [show truncate [' ', '&'] = [' '] from rfl, e]
  rfl

/-- full-line comments (`c` / `C` within the first five columns) anywhere in a block — between cards or
inside a card — do not change the cards -/
theorem comment_lines_immaterial (pre post : List (List Char)) (c : List Char) (hc : isCommentLine c = true) :
    getCards (pre ++ [c] ++ post) = getCards (pre ++ post) := by
  unfold getCards
  simp only [List.foldl_append, List.foldl_cons, List.foldl_nil]
  have : step (List.foldl step {} pre) c = List.foldl step {} pre := by simp [step, hc]
  rw [this]

/-- a blank run at the start of a line: five or more blanks (after tab expansion) continue the card,
whatever the previous line -/
theorem five_blanks_continue (l : List Char) (prev : Option (List Char)) (h : leading5 (expandTabs l) = true) :
    isContinuation l prev = true := by
  simp [isContinuation, h]

-- in the examples the literals are turned into character lists first: left to `decide` / `rfl`, unpacking
-- `"…".toList` is most of the work
example : (contents ["1 0  -1 $ first".toList, "c a comment".toList, "     imp:n=1 &".toList, "u=2".toList,
    "2 0 1".toList]).map String.ofList = ["1 0 -1 imp:n=1 u=2", "2 0 1"] := by
  simp only [String.reduceToList]; decide

/-! ### blocks: blank-line delimiters and the message block (`get_block_positions`) -/

theorem blocksAux_nonblank : ∀ (b : List (List Char)), (∀ l ∈ b, blankLine l = false) → ∀ rest cur acc inDelim,
    blocksAux (b ++ rest) cur acc inDelim = blocksAux rest (b.reverse ++ cur) acc (inDelim && b.isEmpty)
  | [], _, _, _, _, _ => by simp
  | l :: b, hb, rest, cur, acc, inDelim => by
      simp [blocksAux, hb l (by simp), blocksAux_nonblank b (fun x hx => hb x (by simp [hx]))]

theorem blocksAux_delim (rest : List (List Char)) : ∀ (g : List (List Char)), (∀ l ∈ g, blankLine l = true) →
    ∀ acc, blocksAux (g ++ rest) [] acc true = blocksAux rest [] acc true
  | [], _, _ => rfl
  | l :: g, hg, acc => by
      simp only [List.cons_append, blocksAux, hg l (by simp), if_true]
      exact blocksAux_delim rest g (fun x hx => hg x (by simp [hx])) acc

theorem blocksAux_blank (g : List (List Char)) (hg : ∀ l ∈ g, blankLine l = true) (hne : g ≠ []) (rest cur acc) :
    blocksAux (g ++ rest) cur acc false = blocksAux rest [] (cur.reverse :: acc) true := by
  obtain ⟨l, g, rfl⟩ := List.exists_cons_of_ne_nil hne
  simp only [List.cons_append, blocksAux, hg l (by simp), if_true, Bool.false_eq_true, if_false]
  exact blocksAux_delim rest g (fun x hx => hg x (by simp [hx])) _

/-- **the delimiter between two blocks may be any non-empty run of blank lines** (empty lines, lines of blanks or
tabs, in any number): the blocks are the same -/
theorem delimiter_immaterial (g g' rest : List (List Char))
    (hg : ∀ l ∈ g, blankLine l = true) (hg' : ∀ l ∈ g', blankLine l = true) (hne : g ≠ []) (hne' : g' ≠ [])
    (cur : List (List Char)) (acc : List (List (List Char))) :
    blocksAux (g ++ rest) cur acc false = blocksAux (g' ++ rest) cur acc false := by
  rw [blocksAux_blank g hg hne, blocksAux_blank g' hg' hne']

theorem blocksAux_acc : ∀ (ls cur : List (List Char)) (acc : List (List (List Char))) (d : Bool),
    blocksAux ls cur acc d = acc.reverse ++ blocksAux ls cur [] d
  | [], cur, acc, d => by cases d <;> simp [blocksAux]
  | l :: ls, cur, acc, d => by
      rw [blocksAux, blocksAux]
      cases blankLine l with
      | false => exact blocksAux_acc ls (l :: cur) acc false
      | true =>
        cases d with
        | true => exact blocksAux_acc ls [] acc true
        | false =>
          rw [if_pos rfl, if_neg Bool.false_ne_true, if_pos rfl, if_neg Bool.false_ne_true, blocksAux_acc ls [] (_ :: acc),
            blocksAux_acc ls [] [_], List.reverse_cons, List.append_assoc]
          rfl

theorem message_block_split (msg : List (List Char)) (g rest : List (List Char))
    (hm : ∀ l ∈ msg, blankLine l = false) (hg : ∀ l ∈ g, blankLine l = true) (hgne : g ≠ [])
    (hrest : ∀ l, rest.head? = some l → blankLine l = false) (hrne : rest ≠ []) :
    blocksOf (msg ++ g ++ rest) = msg :: blocksOf rest := by
  unfold blocksOf
  rw [List.append_assoc, blocksAux_nonblank msg hm, Bool.false_and, blocksAux_blank g hg hgne, blocksAux_acc]
  simp only [List.append_nil, List.reverse_reverse]
  -- `rest` begins with a line that is not blank: being inside a delimiter or not makes no difference to its scan
  obtain ⟨r, rs, rfl⟩ := List.exists_cons_of_ne_nil hrne
  simp [blocksAux, hrest r rfl]

/-- **a leading message block is immaterial**: title, cell, surface and data blocks are those of the deck without it -/
theorem message_block_immaterial (msg g rest : List (List Char))
    (hm : ∀ l ∈ msg, blankLine l = false) (hmne : msg ≠ []) (hg : ∀ l ∈ g, blankLine l = true) (hgne : g ≠ [])
    (hrest : ∀ l, rest.head? = some l → blankLine l = false) (hrne : rest ≠ [])
    (hmsg : startsWithMessage (joinLines (msg ++ g ++ rest)) = true)
    (hno : startsWithMessage (joinLines rest) = false) :
    (getBlocks (msg ++ g ++ rest)).map (fun b => (b.t, b.c, b.s, b.d)) =
      (getBlocks rest).map (fun b => (b.t, b.c, b.s, b.d)) := by
  unfold getBlocks
  rw [message_block_split msg g rest hm hg hgne hrest hrne]
  simp only [hmsg, hno, if_true, Bool.false_eq_true, if_false, List.drop_succ_cons, List.drop_zero]
  generalize blocksOf rest = bs
  -- `getBlocks` looks at the first four blocks only
  rcases bs with _ | ⟨b1, _ | ⟨b2, _ | ⟨b3, _ | ⟨b4, r⟩⟩⟩⟩ <;> rfl

/-! ### cell cards: number, material, geometry, options (`cellcard.split` on the one-line content of a card)

The content of a card has its blanks already normalised (one blank between words). -/
open T4V.CC in
/-- **a cell with a material**: for every cell number, every spelling of a non-zero material number, every density
(any word without `(`), every geometry that begins with a blank or `(`, and every options text, the split returns
exactly these pieces -/
theorem cell_card_split_material (ds m r g o : List Char)
    (hds : ds ≠ [] ∧ ∀ c ∈ ds, isDigit c = true)
    (hm : m ≠ [] ∧ ∀ c ∈ m, cws c = false) (hz : floatZero? m = some false)
    (hr : r ≠ [] ∧ ∀ c ∈ r, cws c = false ∧ c ≠ '(')
    (hg : ∀ c rest, g = c :: rest → cws c = true ∨ c = '(')
    (hopt : OptsAt (bodyNonvoid ds m r g) o) :
    splitCell (bodyNonvoid ds m r g ++ o) = .ok { name := ds, mat := ' ' :: m ++ ' ' :: r, geom := g, opts := o } := by
  have hthird : ((r ++ g ++ o).dropWhile cws).isEmpty = false := by
    obtain ⟨x, xs, rfl⟩ := List.exists_cons_of_ne_nil hr.1
    simp [(hr.2 x List.mem_cons_self).1]
  have := splitCell_plain ds m (r ++ g) o false hds hm hz hthird hopt
  rwa [show wsDensity (' ' :: (r ++ g)) = some (' ' :: r, g) from wsDensity_of r g hr.1 hr.2 hg] at this

open T4V.CC in
/-- **a void cell**: any spelling of zero (`0`, `0.0`, `-0`, `0e5` …) is followed directly by the geometry -/
theorem cell_card_split_void (ds m g o : List Char)
    (hds : ds ≠ [] ∧ ∀ c ∈ ds, isDigit c = true)
    (hm : m ≠ [] ∧ ∀ c ∈ m, cws c = false) (hz : floatZero? m = some true)
    (hthird : ((g ++ o).dropWhile cws).isEmpty = false)
    (hopt : OptsAt (bodyVoid ds m (' ' :: g)) o) :
    splitCell (bodyVoid ds m (' ' :: g) ++ o) = .ok { name := ds, mat := ' ' :: m, geom := ' ' :: g, opts := o } :=
  splitCell_plain ds m g o true hds hm hz hthird hopt

open T4V.CC in
/-- **which material numbers are "zero"**: `cellcard.split` decides void / non-void with `float(token) == 0`, i.e. on
the *double* the token rounds to.  A decimal written without exponent and with at most 323 fractional digits is zero
exactly when all its digits are zero (no underflow is possible there: 10^-323 > 2^-1075). -/
theorem plain_decimal_zero_iff (ds : List Char) (nfrac : Nat) (h : nfrac ≤ 323) :
    underflows ds nfrac [] = (digitsNat ds == 0) := by
  unfold underflows
  by_cases hd : digitsNat ds = 0
  · simp [hd]
  · -- no exponent: the value is `d / 10 ^ nfrac ≥ 10 ^ -323`, above the threshold `2 ^ -1075`
    have h1 : 10 ^ nfrac ≤ 10 ^ 323 := Nat.pow_le_pow_right (by decide) h
    have h2 : 10 ^ 323 < 2 ^ 1075 := by decide +kernel
    have h3 : 2 ^ 1075 ≤ digitsNat ds * 2 ^ 1075 := Nat.le_mul_of_pos_left _ (Nat.pos_of_ne_zero hd)
    have he : digitsNat (stripSign []) = 0 := rfl
    have : ¬ digitsNat ds * 2 ^ 1075 ≤ 10 ^ nfrac := by omega
    simp [hd, he, this]

open T4V.CC in
/-- A non-zero decimal that underflows is "zero" for the split as it is for Python: `1.2e-431` is read as a
void cell's material, `4.9e-324` (the smallest subnormal) and `2.5e-324` (which rounds up to it) are not, `2.4e-324`
(below half of it) is -/
theorem underflowing_material_is_void :
    floatZero? "1.2e-431".toList = some true ∧ floatZero? "4.9e-324".toList = some false ∧
    floatZero? "2.5e-324".toList = some false ∧ floatZero? "2.4e-324".toList = some true ∧
    floatZero? "0.0e5".toList = some true ∧ floatZero? "1e-400".toList = some true := by
  refine ⟨?_, ?_, ?_, ?_, ?_, ?_⟩ <;> decide +kernel

open T4V.CC in
/-- **`LIKE n BUT`**: whatever the letter case of `like` and of `but`, the options are what follows the last `but` -/
theorem cell_card_split_like (ds mid o : List Char) (l i k e x y z : Char)
    (hds : ds ≠ [] ∧ ∀ c ∈ ds, isDigit c = true)
    (hlk : [l, i, k, e].map lower = "like".toList) (hb : isBut x y z = true)
    (ho : lastBut o = none)
    (ho1 : ∀ a b rest, o = a :: b :: rest → isBut z a b = false)
    (ho2 : ∀ a rest, o = a :: rest → isBut y z a = false) :
    splitCell (ds ++ ' ' :: l :: i :: k :: e :: ' ' :: (mid ++ x :: y :: z :: o))
      = .ok { name := ds, mat := [], geom := ' ' :: l :: i :: k :: e :: ' ' :: (mid ++ [x, y, z]), opts := o } := by
  have hdw : ∀ c ∈ ds, cws c = false := fun c hc => digit_not_ws c (hds.2 c hc)
  -- what lower-cases to a letter of `like` / `but` is not a blank
  have hw4 : ∀ c ∈ [l, i, k, e], cws c = false := fun c hc =>
    not_ws_of_lower c (lower c) rfl
      ((by decide : ∀ t ∈ "like".toList, cws t = false) _ (hlk ▸ List.mem_map_of_mem hc))
  have nx : cws x = false := by
    simp only [isBut, Bool.and_eq_true, beq_iff_eq] at hb
    exact not_ws_of_lower x 'b' hb.1.1 (by decide)
  have w1 : word (ds ++ ' ' :: l :: i :: k :: e :: ' ' :: (mid ++ x :: y :: z :: o))
      = (ds, ' ' :: l :: i :: k :: e :: ' ' :: (mid ++ x :: y :: z :: o)) :=
    word_of [] ds _ (by simp) hdw hds.1 (.cons (by decide))
  have w2 : word (' ' :: l :: i :: k :: e :: ' ' :: (mid ++ x :: y :: z :: o))
      = ([l, i, k, e], ' ' :: (mid ++ x :: y :: z :: o)) :=
    word_of [' '] [l, i, k, e] (' ' :: (mid ++ x :: y :: z :: o)) (by simp [cws]) hw4 (by simp) (.cons (by decide))
  have w3 : ((' ' :: (mid ++ x :: y :: z :: o)).dropWhile cws).isEmpty = false := by
    rw [Scan.dropWhile_isEmpty, List.all_eq_false]
    exact ⟨x, by simp, by simp [nx]⟩
  have hng := nameGroup_of ds (l :: i :: k :: e :: ' ' :: (mid ++ x :: y :: z :: o)) hds.1 hds.2
  have s := Scan.scan (p := cws) (a := [' ']) (g := l :: i :: k :: e :: ' ' :: (mid ++ x :: y :: z :: o)) (by simp [cws])
    (.cons (hw4 l (by simp)))
  have hlb : lastBut (' ' :: (mid ++ x :: y :: z :: o)) = some (' ' :: (mid ++ [x, y, z]), o) :=
    lastBut_at (' ' :: mid) x y z o hb ho ho1 ho2
  simp only [List.singleton_append] at s
  simp only [splitCell, w1, w2, w3, List.isEmpty_cons, Bool.false_or, Bool.false_eq_true, if_false, hlk,
    beq_self_eq_true, if_true, hng, s.1, s.2, hlb]
  simp

open T4V.CC in
/-- a text without letters and `*` has no place where options could start (so `OptsAt` holds for cards whose
density has no exponent letter as soon as the options follow a blank or `)`) -/
theorem no_options_in_plain_text (cs : List Char) (h : ∀ c ∈ cs, (c == '*' || isLetter c) = false) :
    findOptions cs = none := by
  induction cs with
  | nil => rfl
  | cons a as ih =>
    cases as with
    | nil => rfl
    | cons b bs =>
      have hb := h b (List.mem_cons_of_mem _ List.mem_cons_self)
      have := ih (fun c hc => h c (List.mem_cons_of_mem _ hc))
      simp [findOptions, hb, this]

open T4V.CC in
example : splitCell "5 1 -2.7e0 -1 (2:3) #4 imp:n=1 u=2".toList
    = .ok { name := "5".toList, mat := " 1 -2.7e0".toList, geom := " -1 (2:3) #4 ".toList, opts := "imp:n=1 u=2".toList } := by
  simp only [String.reduceToList]; rfl
open T4V.CC in
example : splitCell "7 0.0 (1 2)*trcl=(1 0 0)".toList
    = .ok { name := "7".toList, mat := " 0.0".toList, geom := " (1 2)".toList, opts := "*trcl=(1 0 0)".toList } := by
  simp only [String.reduceToList]; rfl
open T4V.CC in
example : splitCell "12 LiKe 5 bUt imp:n=0".toList
    = .ok { name := "12".toList, mat := [], geom := " LiKe 5 bUt".toList, opts := " imp:n=0".toList } := by
  simp only [String.reduceToList]; rfl

/-! ### surface and data cards (`surfacecard.split`, `datacard.split` on the one-line content) -/
open T4V.CC in
/-- **a surface card** `[*+]n mnemonic parameters` is cut into exactly these fields: any boundary flags, any number,
any mnemonic of letters and `/` in any letter case, any parameter text -/
theorem surface_card_split (flags ds mn params : List Char)
    (hf : ∀ c ∈ flags, isFlag c = true) (hds : ds ≠ [] ∧ ∀ c ∈ ds, isDigit c = true)
    (hmn : mn ≠ [] ∧ ∀ c ∈ mn, isMnChar c = true) (hp : ∀ c r, params = c :: r → cws c = false) :
    splitSurface (flags ++ (ds ++ ' ' :: (mn ++ ' ' :: params)))
      = some { name := flags ++ ds, tr := [], mn := mn, params := params } :=
  split_surface flags ds [] [] [] mn params hf hds (by simp) (by simp) (by simp) hmn hp
    (.of_ne_nil (a := mn) hmn.1 fun c hc => mn_not_ws c (hmn.2 c hc))

open T4V.CC in
/-- **the letter case of a surface mnemonic is immaterial**: the card is cut at the same places whatever the case of
the mnemonic, and the reader lower-cases the mnemonic it gets (`get_surfaces`: `t.strip().lower()`), so `PX`, `Px`
and `px` are the same card -/
theorem surface_mnemonic_case_immaterial (flags ds mn mn' params : List Char)
    (hf : ∀ c ∈ flags, isFlag c = true) (hds : ds ≠ [] ∧ ∀ c ∈ ds, isDigit c = true)
    (hmn : mn ≠ [] ∧ ∀ c ∈ mn, isMnChar c = true) (hmn' : mn' ≠ [] ∧ ∀ c ∈ mn', isMnChar c = true)
    (hp : ∀ c r, params = c :: r → cws c = false) (h : mn.map lower = mn'.map lower) :
    (splitSurface (flags ++ (ds ++ ' ' :: (mn ++ ' ' :: params)))).map (fun p => { p with mn := p.mn.map lower }) =
    (splitSurface (flags ++ (ds ++ ' ' :: (mn' ++ ' ' :: params)))).map (fun p => { p with mn := p.mn.map lower }) := by
  rw [surface_card_split flags ds mn params hf hds hmn hp, surface_card_split flags ds mn' params hf hds hmn' hp]
  simp [h]

open T4V.CC in
/-- **a surface card with a transformation number** `[*+]n [±]t mnemonic parameters` -/
theorem surface_card_split_tr (flags ds sg td mn params : List Char)
    (hf : ∀ c ∈ flags, isFlag c = true) (hds : ds ≠ [] ∧ ∀ c ∈ ds, isDigit c = true)
    (hsg : ∀ c ∈ sg, isSign c = true) (htd : td ≠ [] ∧ ∀ c ∈ td, isDigit c = true)
    (hmn : mn ≠ [] ∧ ∀ c ∈ mn, isMnChar c = true) (hp : ∀ c r, params = c :: r → cws c = false) :
    splitSurface (flags ++ (ds ++ ' ' :: (sg ++ (td ++ ' ' :: (mn ++ ' ' :: params)))))
      = some { name := flags ++ ds, tr := sg ++ td ++ [' '], mn := mn, params := params } :=
  split_surface flags ds sg td [' '] mn params hf hds hsg htd.2 (by simp [cws]) hmn hp
    (.append (fun c hc => sign_not_ws c (hsg c hc)) (.of_ne_nil htd.1 fun c hc => digit_not_ws c (htd.2 c hc)))

open T4V.CC in
/-- **a numbered data card** (`m1 …`, `tr5 …`, `*TR5 …`): type (with its stars, any letter case), number, the rest -/
theorem data_card_split (stars ls ds rest : List Char)
    (hst : ∀ c ∈ stars, (c == '*') = true) (hls : ls ≠ [] ∧ ∀ c ∈ ls, isLetter c = true)
    (hds : ds ≠ [] ∧ ∀ c ∈ ds, isDigit c = true) :
    splitData (stars ++ (ls ++ (ds ++ ' ' :: rest)))
      = some { typ := stars ++ ls, name := ds, star := [], params := ' ' :: rest } := by
  have s0 := Scan.scan_nil (p := cws) (g := stars ++ (ls ++ (ds ++ ' ' :: rest)))
    (.append (fun c hc => by rw [beq_iff_eq.mp (hst c hc)]; decide)
      (.of_ne_nil hls.1 fun c hc => letter_not_ws c (hls.2 c hc)))
  have s1 := Scan.scan (g := ls ++ (ds ++ ' ' :: rest)) hst
    (.of_ne_nil hls.1 fun c hc => letter_not_star c (hls.2 c hc))
  have s2 := Scan.scan (g := ds ++ ' ' :: rest) hls.2 (.of_ne_nil hds.1 fun c hc => digit_not_letter c (hds.2 c hc))
  have s3 := Scan.scan_nil (p := fun c => !isDigit c) (g := ds ++ ' ' :: rest)
    (.of_ne_nil hds.1 fun c hc => by simp [hds.2 c hc])
  have s4 := Scan.scan (g := ' ' :: rest) hds.2 (.cons (by decide))
  simp only [splitData, s0.2, s1.1, s1.2, s2.1, s2.2, s3.1, s3.2, s4.1, s4.2, List.isEmpty_eq_false_iff.mpr hls.1,
    Bool.false_eq_true, if_false, List.append_nil]
  rfl

open T4V.CC in
example : splitSurface "*12 -3 c/Z 1.5 -2 4".toList
    = some { name := "*12".toList, tr := "-3 ".toList, mn := "c/Z".toList, params := "1.5 -2 4".toList } := by
  simp only [String.reduceToList]; rfl
open T4V.CC in
example : splitData "*TR5 0 0 1 30 60 90".toList
    = some { typ := "*TR".toList, name := "5".toList, star := [], params := " 0 0 1 30 60 90".toList } := by
  simp only [String.reduceToList]; rfl
-- observation O3 as the model shows it: the first entry `.5` of an `IMP:N` card loses its point to the card name
open T4V.CC in
example : splitData "imp:n .5 1 1".toList
    = some { typ := "imp:n .".toList, name := "5".toList, star := [], params := " 1 1".toList } := by
  simp only [String.reduceToList]; rfl

/-! ### keyword tokens of a cell card (`parse_one_cell_worker`: colons squeezed, lower-cased, `( ) =` → blank, split) -/
open T4V.CC in
/-- **letter case of the cell keywords is immaterial**: option texts that differ only in the case of their letters
give the same tokens to `parse_keywords` -/
theorem keyword_case_immaterial (s s' : List Char) (h : s.map lower = s'.map lower) : optTokens s = optTokens s' := by
  unfold optTokens
  have e : ∀ t : List Char, (colonSquash t).map (fun c => punctToBlank (lower c))
      = (colonSquash (t.map lower)).map punctToBlank := by
    intro t
    rw [colonSquash_map_lower, List.map_map]
    rfl
  rw [e s, e s', h]

open T4V.CC in
/-- `str.split()` returns the words of a text whose words are separated by single blanks (what `Card.content`
produces) -/
theorem split_returns_the_words (words : List (List Char)) (h : ∀ x ∈ words, x ≠ [] ∧ ∀ c ∈ x, cws c = false) :
    splitWs (joinSp words) = words := splitWs_join words h

open T4V.CC in
example : optTokens "IMP : N=1 *Fill=3 (1 0 0)  TrCl=( 0 0 1 )U=2".toList
    = ["imp:n", "1", "*fill", "3", "1", "0", "0", "trcl", "0", "0", "1", "u", "2"].map String.toList := by
  simp only [String.reduceToList, List.map]; decide

end T4V.C14
