import T4V.Model.Hex
import T4V.Props.C06
import Mathlib.Tactic.LinearCombination
/-!
# Property C07 — hexagonal lattices follow MCNP's hexagonal index convention

Model: `T4V.Model.Hex` (vertex traversal of `hexVertices`, base vectors = `v[0] − v[2]` of the traversals
started at the first and at the third listed side), `T4V.Model.Lattice` (index enumeration, shared with
rectangular lattices: theorems of `Props/C06`).  The six side planes are listed as MCNP requires: (1st,
2nd) opposite, (3rd, 4th) opposite, (5th, 6th) opposite, the last pair in either order — labels 0…5.
-/
namespace T4V.C07

/-- **the traversal goes round the hexagon**, whatever the cyclic arrangement of the listed planes (eight
arrangements per starting side: either neighbour pair, either order inside the pairs): starting from
side `first` it returns the six vertices in cyclic order, in one direction or the other, the first and
the last vertex lying on side `first` -/
theorem traversal_goes_round_0 : ∀ arr ∈ arrangements 0,
    hexTraverse (adjOfCycle arr) 0 = some (forward arr) ∨ hexTraverse (adjOfCycle arr) 0 = some (backward arr) := by
  decide

theorem traversal_goes_round_2 : ∀ arr ∈ arrangements 2,
    hexTraverse (adjOfCycle arr) 2 = some (forward arr) ∨ hexTraverse (adjOfCycle arr) 2 = some (backward arr) := by
  decide

/-- the two directions name the same vertices: `backward[k] = forward[5 − k]` -/
theorem backward_is_forward_reversed : ∀ first ∈ [0, 2], ∀ arr ∈ arrangements first,
    backward arr = (forward arr).reverse := by
  decide

section
variable {α : Type} [Field α]

/-- **the base vector carries the unit cell across the starting side.**  `Q0 … Q5`: the vertices going
round, `Q5 Q0` being the starting side and `Q2 Q3` the opposite one; opposite sides parallel and equal
(the hexagon is centrally symmetric: `Q(k+3) + Qk` is the same point for `k = 0, 1, 2`) — regular or
not, in any orientation.  Then `a = v[0] − v[2]` is the same vector for both directions of the traversal
and the translation by `a` maps the opposite side onto the starting side. -/
theorem base_vector_carries (Q0 Q1 Q2 Q3 Q4 Q5 s : V3 α)
    (h0 : Q3.add Q0 = s) (h1 : Q4.add Q1 = s) (h2 : Q5.add Q2 = s) :
    let a := Q0.sub Q2
    Q2.add a = Q0 ∧ Q3.add a = Q5 ∧ Q5.sub Q3 = a := by
  obtain ⟨hx, hy, hz⟩ := V3.mk.inj (h0.trans h2.symm)
  refine ⟨?_, ?_, ?_⟩ <;> apply V3.ext' <;> simp only [V3.add, V3.sub]
  · ring
  · ring
  · ring
  · linear_combination hx
  · linear_combination hy
  · linear_combination hz
  · linear_combination -hx
  · linear_combination -hy
  · linear_combination -hz

/-- **`hexLatticeBaseVectors`, first two vectors**: with vertex positions `pos` (named by the pair of
sides they lie on) of a centrally symmetric hexagon, the vector `pos v[0] − pos v[2]` computed from the
traversal started at side `first` is the translation that maps the side opposite to `first` onto
`first` — for every arrangement of the listed planes -/
theorem hex_base_vector (first : Nat) (hf : first = 0 ∨ first = 2) (arr : List Nat) (harr : arr ∈ arrangements first)
    (pos : Nat × Nat → V3 α) (s : V3 α)
    (hsym : ∀ k, k < 3 → (pos ((forward arr).getD (k + 3) (0, 0))).add (pos ((forward arr).getD k (0, 0))) = s) :
    ∃ vs, hexTraverse (adjOfCycle arr) first = some vs ∧
      let a := (pos (vs.getD 0 (0, 0))).sub (pos (vs.getD 2 (0, 0)))
      let Q := fun k => pos ((forward arr).getD k (0, 0))
      (Q 2).add a = Q 0 ∧ (Q 3).add a = Q 5 := by
  have key := base_vector_carries (pos ((forward arr).getD 0 (0, 0))) (pos ((forward arr).getD 1 (0, 0)))
    (pos ((forward arr).getD 2 (0, 0))) (pos ((forward arr).getD 3 (0, 0))) (pos ((forward arr).getD 4 (0, 0)))
    (pos ((forward arr).getD 5 (0, 0))) s (hsym 0 (by omega)) (hsym 1 (by omega)) (hsym 2 (by omega))
  have hrev := backward_is_forward_reversed first (by rcases hf with rfl | rfl <;> simp) arr harr
  have hlen : (forward arr).length = 6 := by simp [forward]
  have hround : hexTraverse (adjOfCycle arr) first = some (forward arr) ∨
      hexTraverse (adjOfCycle arr) first = some (backward arr) := by
    rcases hf with rfl | rfl
    · exact traversal_goes_round_0 arr harr
    · exact traversal_goes_round_2 arr harr
  rcases hround with h | h
  · exact ⟨_, h, key.1, key.2.1⟩
  · refine ⟨_, h, ?_⟩
    -- backward[0] = forward[5], backward[2] = forward[3]
    match forward arr, hlen, hrev, key with
    | [_, _, _, _, _, _], _, hrev, key =>
      obtain ⟨h20, h35, ha⟩ := key
      rw [hrev]
      -- the goal's `a` is `Q5 − Q3`, the `a` of `h20` and `h35` is `Q0 − Q2`
      exact ⟨ha ▸ h20, ha ▸ h35⟩

/-- universes are assigned to the elements of a hexagonal lattice as for rectangular ones: same index
enumeration (first index fastest), same pairing with the FILL array -/
theorem hex_fill_array_order {β} (bs : List (Int × Int)) (spec : List β) (h : bs ≠ []) :
    latItems bs spec = (indexBox bs).zip spec :=
  C06.items_zip bs spec h

/-- the projection lies on the plane -/
theorem projection_on_plane (point plPt normal dir : V3 α) (h : dir.dot normal ≠ 0) :
    normal.dot ((projectPointOnPlane point plPt normal dir).sub plPt) = 0 := by
  unfold projectPointOnPlane
  rw [V3.dot_sub_right, V3.dot_add_right, V3.dot_smul_right, V3.dot_comm normal dir, div_mul_cancel₀ _ h,
    V3.dot_sub_left, V3.dot_comm plPt, V3.dot_comm point]
  ring

/-- **the third base vector of an eight-plane hexagonal prism**: for parallel end planes (`n8 = μ·n7`) it is the
multiple of the prism axis that carries the eighth-listed plane onto the seventh-listed one, whatever vertex the
construction starts from -/
theorem hex_axial_vector (v p7 n7 p8 n8 axis : V3 α) (μ : α) (hμ : μ ≠ 0) (hn : n8 = V3.smul μ n7)
    (hax : axis.dot n7 ≠ 0) :
    hexAxialVector v p7 n7 p8 n8 axis = V3.smul (n7.dot (p7.sub p8) / n7.dot axis) axis ∧
    ∀ x : V3 α, n8.dot (x.sub p8) = 0 → n7.dot ((x.add (hexAxialVector v p7 n7 p8 n8 axis)).sub p7) = 0 := by
  subst hn
  have key : hexAxialVector v p7 n7 p8 (V3.smul μ n7) axis = V3.smul (n7.dot (p7.sub p8) / n7.dot axis) axis := by
    unfold hexAxialVector projectPointOnPlane
    -- the factor `μ` cancels in the second projection; both projections start from `v`
    rw [V3.add_smul_sub_add_smul, V3.dot_smul_right, V3.dot_smul_right, mul_div_mul_left _ _ hμ, ← sub_div,
      V3.dot_comm n7 axis, V3.dot_comm n7, V3.dot_sub_left, V3.dot_sub_left, V3.dot_sub_left]
    congr 2; ring
  refine ⟨key, fun x hx => ?_⟩
  rw [V3.dot_smul_left, mul_eq_zero, or_iff_right hμ] at hx
  rw [key, V3.dot_sub_right, V3.dot_add_right, V3.dot_smul_right,
    div_mul_cancel₀ _ (by rwa [V3.dot_comm] : n7.dot axis ≠ 0)]
  rw [V3.dot_sub_right] at hx ⊢
  linear_combination hx
end

end T4V.C07
