import T4V.Proofs.ConvertAll
import T4V.Proofs.PostClosed
import T4V.Proofs.CompileClosed
import T4V.Proofs.MonitorFast
/-!
# Property C01 — every point stays in the volume of the cell that owns it (Boolean core)

Model: `T4V.Model.Tree` (`pot_complement`), `T4V.Model.ToT4` (`pot_flag`, `pot_expand_surfs`,
`pot_optimise`, `pot_to_t4_cell`, `convert_surface`, `convert_cellref`, `pot_convert`, the conversion
loop of `construct_volume_t4`).  `σ` is the sense of every TRIPOLI-4 surface at an arbitrary point;
an MCNP surface (possibly a collection: one-sheet cone, macrobody) is positive when the point is on
the positive side of one of its members (`surfValOf`).  All statements hold for trees of any size and
depth, any number of cells and any `σ`.
-/
namespace T4V.C01

/-- (a) `pot_flag` keeps the Boolean function (and numbers nodes with fresh, distinct ids). -/
theorem flag_preserves (m : Matching) (σ : TSense) (cv : Nat → Bool) (g : Geom) (k : Nat)
    (h : g.complFree = true) : (potFlag g k).1.eval m σ cv = g.eval (surfValOf m σ) cv :=
  (potFlag_spec g k).eval h m σ cv

/-- (b) `pot_expand_surfs`: `-b` ↦ intersection of the inward sides, `+b` ↦ union of the outward
sides, `b.k` ↦ the k-th member: same Boolean function. -/
theorem expand_preserves (m : Matching) (hm : MatchOK m) (σ : TSense) (cv : Nat → Bool) (t t' : FTree)
    (k k' : Nat) (hz : t.nonzero = true) (h : potExpand m t k = .ok (t', k')) :
    t'.eval m σ cv = t.eval m σ cv :=
  (potExpand_ok m hm σ cv t k t' k' hz h).eval

/-- (c) `pot_optimise`: flattening keeps the function; a tree is only declared empty (`None`) when
it is false for every sense assignment. -/
theorem optimise_sound (m : Matching) (σ : TSense) (cv : Nat → Bool) (t : FTree) (hx : t.expanded = true) :
    (∀ t', potOptimise t = some t' → t'.eval m σ cv = t.eval m σ cv) ∧
    (potOptimise t = none → t.eval m σ cv = false) :=
  let r := potOptimise_ok m σ cv t hx
  ⟨fun t' h => (r.some_ok t' h).1, r.none_ok⟩

/-- (d) `pot_convert` (with both caches, fresh ids, helper planes for unions, the
largest-pure-intersection shortcut, cell references to any depth): the returned volume denotes the
cell's expression; `None` is returned only for an expression that is false at this point
(`ResOK … (some id)` = `Denotes vols σ id b`, `ResOK … none` = `b = false`). -/
theorem convert_cell (env : CEnv) (σ : TSense) (cv : Nat → Bool) (hE : EnvOK env σ cv) (fuel : Nat)
    (c : CellIn) (st st' : CState) (r : Option Nat) (hst : StOK σ cv st)
    (hcf : c.geom.complFree = true) (hnz : c.geom.nonzero = true)
    (h : potConvert env fuel c st = .ok (r, st')) :
    ResOK σ st'.vols (c.geom.eval (surfValOf env.matching σ) cv) r :=
  (potConvert_ok env σ cv hE fuel c st r st' _ hst hcf hnz rfl h).res

/-- (e) the conversion loop: each live level-0 cell `c` ends up with a non-virtual volume numbered
`c` that contains the point iff the MCNP cell does, or with no volume when its expression is false
there.  Hence two cells whose MCNP regions are disjoint give disjoint volumes, and the volumes cover
exactly what the cells cover. -/
theorem loop (env : CEnv) (σ : TSense) (cv : Nat → Bool) (hE : EnvOK env σ cv) (fuel next0 : Nat)
    (keys : List Nat) (st' : CState) (hnd : keys.Nodup) (hle : ∀ c ∈ keys, c ≤ next0)
    (h : convertAll env fuel keys { next := next0 } = .ok st') :
    ∀ c ∈ keys, Good σ cv st'.vols c :=
  convertAll_ok env σ cv hE fuel next0 keys st' hnd hle h

/-- consequence: at a point where MCNP puts exactly one of the live cells, exactly one of the
emitted cell volumes contains it, and it carries that cell's number -/
theorem exactly_one (env : CEnv) (σ : TSense) (cv : Nat → Bool) (hE : EnvOK env σ cv) (fuel next0 : Nat)
    (keys : List Nat) (st' : CState) (hnd : keys.Nodup) (hle : ∀ c ∈ keys, c ≤ next0)
    (h : convertAll env fuel keys { next := next0 } = .ok st') (c : Nat) (hc : c ∈ keys)
    (hown : cv c = true) (huniq : ∀ c' ∈ keys, c' ≠ c → cv c' = false) :
    Denotes st'.vols σ c true ∧ ∀ c' ∈ keys, c' ≠ c → ¬ Denotes st'.vols σ c' true := by
  have hg := loop env σ cv hE fuel next0 keys st' hnd hle h
  refine ⟨(hg c hc).denotes hown, fun c' hc' hne hden => ?_⟩
  have := (hg c' hc').eq_of_denotes hden
  rw [huniq c' hc' hne] at this
  cases this

/-- **Post-processing (proved part)**: de-duplication + renumbering, `remove_empty_volumes` and
`remove_unused_volumes` keep the denotation of every surviving non-virtual volume and delete only volumes
that contain no point — for dictionaries with unique keys and every sense assignment at which equally
defined surfaces have equal senses and the two auxiliary union planes bound nothing.  `Denotes'` reads a
reference to a deleted volume as ∅; the full-strength statement is `postProcess_preserves` below. -/
theorem postProcess_preserves_partial (dedup : Bool) (surfs : List (Nat × String)) (u : Nat × Nat)
    (vols : List (Nat × Vol)) (σ : TSense) (hnd : KeysNodup vols) (hσu : ¬ (σ u.1 = true ∧ σ u.2 = false))
    (hσeq : ∀ a b ka kb, (a, ka) ∈ surfs → (b, kb) ∈ surfs → ka = kb → σ a = σ b)
    (k : Nat) (v : Vol) (b : Bool) (hk : dictGet? vols k = some v) (hf : v.fictive = false)
    (hd : Denotes vols σ k b) :
    match dictGet? (postProcess dedup surfs u vols).2 k with
    | some _ => Denotes' (postProcess dedup surfs u vols).2 σ k b
    | none => b = false := by
  have h := postProcess_den' dedup surfs u vols σ hnd hσu hσeq k v b hk hf hd
  split
  next hg => exact h.1 (dictGet?_some_hasKey hg)
  next hg => exact h.2 (dictGet?_none_iff.mp hg)

/-- **Post-processing, full strength**: for a dictionary with unique keys and no dangling reference (what
the conversion loop produces; both are also checked at run time on the dictionaries captured from the
code), `postProcess` — de-duplication + renumbering, `remove_empty_volumes`, `remove_unused_volumes` —
keeps the (strict) denotation of every surviving non-virtual volume, deletes only volumes containing no
point, and leaves no dangling reference. -/
theorem postProcess_preserves (dedup : Bool) (surfs : List (Nat × String)) (u : Nat × Nat)
    (vols : List (Nat × Vol)) (σ : TSense) (hnd : KeysNodup vols) (hc : Closed vols)
    (hσu : ¬ (σ u.1 = true ∧ σ u.2 = false))
    (hσeq : ∀ a b ka kb, (a, ka) ∈ surfs → (b, kb) ∈ surfs → ka = kb → σ a = σ b)
    (k : Nat) (v : Vol) (b : Bool) (hk : dictGet? vols k = some v) (hf : v.fictive = false)
    (hd : Denotes vols σ k b) :
    Closed (postProcess dedup surfs u vols).2 ∧
    match dictGet? (postProcess dedup surfs u vols).2 k with
    | some _ => Denotes (postProcess dedup surfs u vols).2 σ k b
    | none => b = false := by
  have h := postProcess_den' dedup surfs u vols σ hnd hσu hσeq k v b hk hf hd
  have hcl := postProcess_closed dedup surfs u vols hc hnd
  refine ⟨hcl, ?_⟩
  split
  next hg =>
    obtain ⟨f, hf'⟩ := h.1 (dictGet?_some_hasKey hg)
    exact ⟨f, den_of_den'_closed _ σ hcl f k b (dictGet?_some_hasKey hg) hf'⟩
  next hg => exact h.2 (dictGet?_none_iff.mp hg)

/-- (f) the dictionary produced by the conversion loop has unique keys and no dangling reference: the two
hypotheses of `postProcess_preserves` hold of what the compiler produces (syntactic invariant of
`convert_surface`, `pot_convert`, `convert_cellref`, `pot_to_t4_cell` and the loop). -/
theorem compiled_closed (env : CEnv) (fuel next0 : Nat) (keys : List Nat) (st' : CState)
    (h : convertAll env fuel keys { next := next0 } = .ok st') : Closed st'.vols ∧ KeysNodup st'.vols :=
  convertAll_closed_init env fuel next0 keys st' h

/-- **(e) + post-processing, end to end**: after the conversion loop *and* de-duplication, renumbering,
`remove_empty_volumes` and `remove_unused_volumes`, every live level-0 cell `c` either has a volume numbered `c`
that contains the point iff the MCNP cell does, or has no volume and does not contain the point; and no
reference dangles.  No hypothesis on the dictionary is left: closedness and unique keys are (f). -/
theorem loop_then_post (env : CEnv) (σ : TSense) (cv : Nat → Bool) (hE : EnvOK env σ cv) (fuel next0 : Nat)
    (keys : List Nat) (st' : CState) (hnd : keys.Nodup) (hle : ∀ c ∈ keys, c ≤ next0)
    (h : convertAll env fuel keys { next := next0 } = .ok st')
    (dedup : Bool) (surfs : List (Nat × String)) (u : Nat × Nat)
    (hσu : ¬ (σ u.1 = true ∧ σ u.2 = false))
    (hσeq : ∀ a b ka kb, (a, ka) ∈ surfs → (b, kb) ∈ surfs → ka = kb → σ a = σ b) :
    Closed (postProcess dedup surfs u st'.vols).2 ∧
    ∀ c ∈ keys,
      match dictGet? (postProcess dedup surfs u st'.vols).2 c with
      | some _ => Denotes (postProcess dedup surfs u st'.vols).2 σ c (cv c)
      | none => cv c = false := by
  obtain ⟨hcl, hkn⟩ := compiled_closed env fuel next0 keys st' h
  refine ⟨postProcess_closed dedup surfs u st'.vols hcl hkn, ?_⟩
  intro c hc
  rcases Good.iff.mp (loop env σ cv hE fuel next0 keys st' hnd hle h c hc) with ⟨v, hd, hf, hden⟩ | ⟨hk, hcv⟩
  · exact (postProcess_preserves dedup surfs u st'.vols σ hkn hcl hσu hσeq c v (cv c) hd hf hden).2
  · rw [dictGet?_none_iff.mpr fun hk' => hk (postProcess_keys_subset dedup surfs u st'.vols c hk')]
    exact hcv

/-- (m) The point monitor that the checks of C01, C03–C07, C09 run on the converter's written file tabulates, per
point, the senses of all surfaces and the volumes by number (hash tables) and evaluates every non-virtual volume once
(`T4File.verdicts`), instead of searching the surface and volume lists at every reference: the owners and the
undecidable volumes it reads off are exactly those of the specification (`T4File.owners`, `T4File.undecided`), for
every file — duplicate surface or volume numbers included — and every point. -/
theorem monitor_owners_are_spec_owners (f : T4File Float) (p : V3 Float) :
    ownersOf (f.verdicts p) = f.owners p ∧ undecidedOf (f.verdicts p) = f.undecided p :=
  ⟨MonitorFast.ownersOf_verdicts f p, MonitorFast.undecidedOf_verdicts f p⟩

end T4V.C01
