import T4V.Proofs.Surface
import T4V.Proofs.RealOK
/-!
# Property C02 — elementary surfaces keep their locus and their sense

Model: `T4V.Model.Surface` (`normalize_surface`, the `mcnp2cad` table of `MIP/geom/forcad.py`,
`conversion_surface_params`).  Spec: `elemSense` (`T4V.Spec.MCNP`, MCNP manual surface table) and the
TRIPOLI-4 implicit functions `TSurf.f` (`T4V.Spec.T4`).  Every theorem is over an arbitrary linearly
ordered field and for every point.
-/
-- `coneCard_some/_none` compare but make no use of the `[IsStrictOrderedRing α]` of the file's one `variable` line
set_option linter.unusedSectionVars false
namespace T4V.C02
open T4V.Surf
variable {α : Type} [Field α] [LinearOrder α] [IsStrictOrderedRing α] [Transc α]

theorem coneCard_some {t2 : α} (h : 0 ≤ t2) (mk : α → MSurf α) :
    coneCard t2 mk = some (mk (Transc.sqrt t2)) := by
  simp [coneCard, not_lt.mpr h]

/-- a cone card with negative `t²` is rejected (the code raises `TypeError`) -/
theorem coneCard_none {t2 : α} (h : t2 < 0) (mk : α → MSurf α) : coneCard t2 mk = none := by
  simp [coneCard, h]

/-- the admissible cards of the elementary mnemonics covered by the theorem -/
inductive Admissible : String → List α → Prop
  | px (d : α) : Admissible "px" [d]
  | py (d : α) : Admissible "py" [d]
  | pz (d : α) : Admissible "pz" [d]
  | p4 (a b c d : α) (h : 0 < a * a + b * b + c * c) : Admissible "p" [a, b, c, d]
  | so (r : α) : Admissible "so" [r]
  | s (a b c r : α) : Admissible "s" [a, b, c, r]
  | sx (a r : α) : Admissible "sx" [a, r]
  | sy (b r : α) : Admissible "sy" [b, r]
  | sz (c r : α) : Admissible "sz" [c, r]
  | cx_ (b c r : α) : Admissible "c/x" [b, c, r]
  | cy_ (a c r : α) : Admissible "c/y" [a, c, r]
  | cz_ (a b r : α) : Admissible "c/z" [a, b, r]
  | cx (r : α) : Admissible "cx" [r]
  | cy (r : α) : Admissible "cy" [r]
  | cz (r : α) : Admissible "cz" [r]
  | kx_ (a b c t2 : α) (h : 0 ≤ t2) : Admissible "k/x" [a, b, c, t2]
  | kx_1 (a b c t2 s : α) (h : 0 ≤ t2) (hs : s = 1 ∨ s = -1) : Admissible "k/x" [a, b, c, t2, s]
  | ky_ (a b c t2 : α) (h : 0 ≤ t2) : Admissible "k/y" [a, b, c, t2]
  | ky_1 (a b c t2 s : α) (h : 0 ≤ t2) (hs : s = 1 ∨ s = -1) : Admissible "k/y" [a, b, c, t2, s]
  | kz_ (a b c t2 : α) (h : 0 ≤ t2) : Admissible "k/z" [a, b, c, t2]
  | kz_1 (a b c t2 s : α) (h : 0 ≤ t2) (hs : s = 1 ∨ s = -1) : Admissible "k/z" [a, b, c, t2, s]
  | kx (a t2 : α) (h : 0 ≤ t2) : Admissible "kx" [a, t2]
  | kx1 (a t2 s : α) (h : 0 ≤ t2) (hs : s = 1 ∨ s = -1) : Admissible "kx" [a, t2, s]
  | ky (b t2 : α) (h : 0 ≤ t2) : Admissible "ky" [b, t2]
  | ky1 (b t2 s : α) (h : 0 ≤ t2) (hs : s = 1 ∨ s = -1) : Admissible "ky" [b, t2, s]
  | kz (c t2 : α) (h : 0 ≤ t2) : Admissible "kz" [c, t2]
  | kz1 (c t2 s : α) (h : 0 ≤ t2) (hs : s = 1 ∨ s = -1) : Admissible "kz" [c, t2, s]
  | sq (a b c d e f g x y z : α) (hg : ¬ 0 < g) : Admissible "sq" [a, b, c, d, e, f, g, x, y, z]
  | gq (a b c d e f g h j k : α) : Admissible "gq" [a, b, c, d, e, f, g, h, j, k]
  | tx (x y z ra rb rc : α) : Admissible "tx" [x, y, z, ra, rb, rc]
  | ty (x y z ra rb rc : α) : Admissible "ty" [x, y, z, ra, rb, rc]
  | tz (x y z ra rb rc : α) : Admissible "tz" [x, y, z, ra, rb, rc]

/-- **C02 for every card of the table**: the card converts, and the emitted surface(s) have the card's
zero set and MCNP's sense at every point -/
theorem elementary_card (ok : TranscOK α) {mn : String} {ps : List α} (h : Admissible mn ps) :
    Converted (0:α) 0 mn ps := by
  have fc : ∀ {mn : String} {ps : List α}, Tr.TrAdmissible mn ps → Converted (0:α) 0 mn ps := fun h =>
    let ⟨_, hf, hs⟩ := Tr.frame_cards ok h
    hf.converted hs
  cases h with
  | px d => exact fc (.px d)
  | py d => exact fc (.py d)
  | pz d => exact fc (.pz d)
  | p4 a b c d h => exact fc (.p4 a b c d h)
  | so r => exact fc (.so r)
  | s a b c r => exact fc (.s a b c r)
  | sx a r => exact fc (.sx a r)
  | sy b r => exact fc (.sy b r)
  | sz c r => exact fc (.sz c r)
  | cx_ b c r => exact fc (.c_x b c r)
  | cy_ a c r => exact fc (.c_y a c r)
  | cz_ a b r => exact fc (.c_z a b r)
  | cx r => exact fc (.cx r)
  | cy r => exact fc (.cy r)
  | cz r => exact fc (.cz r)
  | kx_ a b c t2 h =>
    exact cone_two_axis ok isAxis_x ⟨a, b, c⟩ _ t2 (ok.sqrt_sq t2 h)
      (coneCard_some h fun tana => mkCone a b c tana 1 0 0 none)
      fun _ => rfl
  | kx_1 a b c t2 s h hs =>
    exact cone_one_axis ok isAxis_x ⟨a, b, c⟩ _ t2 s (ok.sqrt_sq t2 h) hs
      (coneCard_some h fun tana => mkCone a b c tana 1 0 0 (some s))
      fun _ => rfl
  | ky_ a b c t2 h =>
    exact cone_two_axis ok isAxis_y ⟨a, b, c⟩ _ t2 (ok.sqrt_sq t2 h)
      (coneCard_some h fun tana => mkCone a b c tana 0 1 0 none)
      fun _ => rfl
  | ky_1 a b c t2 s h hs =>
    exact cone_one_axis ok isAxis_y ⟨a, b, c⟩ _ t2 s (ok.sqrt_sq t2 h) hs
      (coneCard_some h fun tana => mkCone a b c tana 0 1 0 (some s))
      fun _ => rfl
  | kz_ a b c t2 h =>
    exact cone_two_axis ok isAxis_z ⟨a, b, c⟩ _ t2 (ok.sqrt_sq t2 h)
      (coneCard_some h fun tana => mkCone a b c tana 0 0 1 none)
      fun _ => rfl
  | kz_1 a b c t2 s h hs =>
    exact cone_one_axis ok isAxis_z ⟨a, b, c⟩ _ t2 s (ok.sqrt_sq t2 h) hs
      (coneCard_some h fun tana => mkCone a b c tana 0 0 1 (some s))
      fun _ => rfl
  | kx a t2 h =>
    exact cone_two_axis ok isAxis_x ⟨a, 0, 0⟩ _ t2 (ok.sqrt_sq t2 h)
      (coneCard_some h fun tana => mkCone a 0 0 tana 1 0 0 none)
      fun q => by simp only [V3.sub, sub_zero]; rfl
  | kx1 a t2 s h hs =>
    exact cone_one_axis ok isAxis_x ⟨a, 0, 0⟩ _ t2 s (ok.sqrt_sq t2 h) hs
      (coneCard_some h fun tana => mkCone a 0 0 tana 1 0 0 (some s))
      fun q => by simp only [V3.sub, sub_zero]; rfl
  | ky b t2 h =>
    exact cone_two_axis ok isAxis_y ⟨0, b, 0⟩ _ t2 (ok.sqrt_sq t2 h)
      (coneCard_some h fun tana => mkCone 0 b 0 tana 0 1 0 none)
      fun q => by simp only [V3.sub, sub_zero]; rfl
  | ky1 b t2 s h hs =>
    exact cone_one_axis ok isAxis_y ⟨0, b, 0⟩ _ t2 s (ok.sqrt_sq t2 h) hs
      (coneCard_some h fun tana => mkCone 0 b 0 tana 0 1 0 (some s))
      fun q => by simp only [V3.sub, sub_zero]; rfl
  | kz c t2 h =>
    exact cone_two_axis ok isAxis_z ⟨0, 0, c⟩ _ t2 (ok.sqrt_sq t2 h)
      (coneCard_some h fun tana => mkCone 0 0 c tana 0 0 1 none)
      fun q => by simp only [V3.sub, sub_zero]; rfl
  | kz1 c t2 s h hs =>
    exact cone_one_axis ok isAxis_z ⟨0, 0, c⟩ _ t2 s (ok.sqrt_sq t2 h) hs
      (coneCard_some h fun tana => mkCone 0 0 c tana 0 0 1 (some s))
      fun q => by simp only [V3.sub, sub_zero]; rfl
  | sq a b c d e f g x y z hg =>
    obtain ⟨t, hs, hsame⟩ := sq_same a b c d e f g x y z hg
    exact Converted.of_cad _ rfl (by simp [convertSurf, hs]) hsame (fun _ => rfl)
  | gq a b c d e f g h j k =>
    exact Converted.of_cad _ rfl rfl ⟨1, one_pos, fun p => by simp [TSurf.f, TSurf.fLocal]⟩ fun _ => rfl
  | tx x y z ra rb rc =>
    exact Converted.of_cad (t := { kind := .torusx, ps := [x, y, z, ra, rb, rc] }) _ rfl
      (by simp [convertSurf, convertTorus, mkTorus, fabs, not_lt.mpr (zero_le_one (α := α))])
      ⟨1, one_pos, fun p => by simp [TSurf.f, TSurf.fLocal]⟩
      fun _ => rfl
  | ty x y z ra rb rc =>
    exact Converted.of_cad (t := { kind := .torusy, ps := [x, y, z, ra, rb, rc] }) _ rfl
      (by simp [convertSurf, convertTorus, mkTorus, fabs, not_lt.mpr (zero_le_one (α := α))])
      ⟨1, one_pos, fun p => by simp [TSurf.f, TSurf.fLocal]⟩
      fun _ => rfl
  | tz x y z ra rb rc =>
    exact Converted.of_cad (t := { kind := .torusz, ps := [x, y, z, ra, rb, rc] }) _ rfl
      (by simp [convertSurf, convertTorus, mkTorus, fabs, not_lt.mpr (zero_le_one (α := α))])
      ⟨1, one_pos, fun p => by simp [TSurf.f, TSurf.fLocal]⟩
      fun _ => rfl

/-! ### point-defined axisymmetric surfaces `X`, `Y`, `Z` -/

theorem axisym_x1 (a1 r1 : α) : Converted (0:α) 0 "x" [a1, r1] :=
  (FrameCard.plane_axis isAxis_x ⟨a1, 0, 0⟩ rfl).converted fun _ => rfl

theorem axisym_x2 (ok : TranscOK α) (a1 r1 a2 r2 : α) : Converted (0:α) 0 "x" [a1, r1, a2, r2] :=
  axisym_card ok isAxis_x (fun v => ⟨v, 0, 0⟩) rfl (fun _ _ => rfl) (fun v q => by simp [V3.sub]) a1 r1 a2 r2 rfl
    fun _ => rfl

theorem axisym_y1 (a1 r1 : α) : Converted (0:α) 0 "y" [a1, r1] :=
  (FrameCard.plane_axis isAxis_y ⟨0, a1, 0⟩ rfl).converted fun _ => rfl

theorem axisym_y2 (ok : TranscOK α) (a1 r1 a2 r2 : α) : Converted (0:α) 0 "y" [a1, r1, a2, r2] :=
  axisym_card ok isAxis_y (fun v => ⟨0, v, 0⟩) rfl (fun _ _ => rfl) (fun v q => by simp [V3.sub]) a1 r1 a2 r2 rfl
    fun _ => rfl

theorem axisym_z1 (a1 r1 : α) : Converted (0:α) 0 "z" [a1, r1] :=
  (FrameCard.plane_axis isAxis_z ⟨0, 0, a1⟩ rfl).converted fun _ => rfl

theorem axisym_z2 (ok : TranscOK α) (a1 r1 a2 r2 : α) : Converted (0:α) 0 "z" [a1, r1, a2, r2] :=
  axisym_card ok isAxis_z (fun v => ⟨0, 0, v⟩) rfl (fun _ _ => rfl) (fun v q => by simp [V3.sub]) a1 r1 a2 r2 rfl
    fun _ => rfl

/-! ### `P` with nine entries: the plane through three points -/

/-- **`P` with nine entries** (three points, not collinear): the plane through the points, oriented by
MCNP's rule (origin negative; else (0,0,∞), (0,∞,0), (∞,0,0) positive), in exact arithmetic -/
theorem plane3 (ok : TranscOK α) (x1 y1 z1 x2 y2 z2 x3 y3 z3 : α)
    (h : 0 < ((V3.sub ⟨x1, y1, z1⟩ ⟨x2, y2, z2⟩).cross (V3.sub (⟨x1, y1, z1⟩ : V3 α) ⟨x3, y3, z3⟩)).norm2) :
    Converted (0:α) 0 "p" [x1, y1, z1, x2, y2, z2, x3, y3, z3] := by
  have hpf := planeFromPoints_eq ok _ _ _ h
  -- the spec's normal (p2 − p1) × (p3 − p1) is the code's (p1 − p2) × (p1 − p3)
  have hspec : ∀ p, elemSense "p" [x1, y1, z1, x2, y2, z2, x3, y3, z3] p = some (smOf (
      let n := (V3.sub ⟨x1, y1, z1⟩ ⟨x2, y2, z2⟩).cross (V3.sub (⟨x1, y1, z1⟩ : V3 α) ⟨x3, y3, z3⟩)
      if flip3 n (n.dot ⟨x1, y1, z1⟩) then -(n.dot p - n.dot ⟨x1, y1, z1⟩)
      else n.dot p - n.dot ⟨x1, y1, z1⟩)) := by
    intro p
    rw [← V3.cross_sub_sub]
    rfl
  obtain ⟨t, ht, hsame⟩ := unitPlane_same ok _ ⟨x1, y1, z1⟩ h (flip3 _ (V3.dot _ (⟨x1, y1, z1⟩ : V3 α)))
  exact Converted.of_same _
    ((convertCard_three_points _ _ _ _ _ _ _ _ _ _ hpf (by unfold unitPlane; split <;> rfl)).trans ht)
    hsame hspec

/-- **finding F14** (kept as a theorem about the model, replayed on the code by the `probe` stream): when the card's
constant term is positive (the quadric is positive at its reference point) `convert_special_quadric` negates all
coefficients: the emitted surface has the same zero set but the *opposite* orientation -/
theorem sq_positive_centre_is_reversed (a b c d e f g x y z : α) (hg : 0 < g) :
    ∃ t, convertSQ [a, b, c, d, e, f, g, x, y, z] = some t ∧
      ∀ p, t.f p = some (-(a * sq (p.x - x) + b * sq (p.y - y) + c * sq (p.z - z)
        + two * d * (p.x - x) + two * e * (p.y - y) + two * f * (p.z - z) + g)) := by
  refine ⟨_, by simp only [convertSQ, evalQuadric, sq_centre_value, if_pos hg]; rfl, fun p => ?_⟩
  simp only [TSurf.f, TSurf.fLocal, List.map, sq, two]
  congr 1; ring

/-- the hypotheses on the transcendental functions hold of ℝ, and the card table is inhabited -/
example : Converted (0:ℝ) 0 "k/z" [1, 2, 3, 4, -1] :=
  elementary_card transcOK_real (Admissible.kz_1 1 2 3 4 (-1) (by norm_num) (Or.inr rfl))

end T4V.C02
