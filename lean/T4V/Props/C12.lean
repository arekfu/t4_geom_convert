import T4V.Text.DataCard
import Mathlib.Order.MinMax
/-!
# Property C12 — exactly the zero-importance cells are left out (data-card expansion logic)

Model: `T4V.Text.DataCard` (`expand_data_card` as a stack machine, per-rank maximum over IMP:x cards).
Theorems are over an arbitrary scalar type (importances are only tested for being zero).
-/
namespace T4V.C12

section Scalar
variable {α : Type} [Add α] [Sub α] [Mul α] [Div α] [OfNat α 0] [OfNat α 1]

/-- a card without shorthand expands to itself: entry `i` of the IMP card is the importance of the
`i`-th cell of the cell block -/
theorem plain_card_is_identity : ∀ (xs : List α) (acc : List (Option α)) (c : Nat),
    expandData none (xs.map DTok.num) acc c = .ok (acc ++ xs.map some, c + xs.length)
  | [], acc, c => by simp [expandData]
  | x :: xs, acc, c => by
      simp only [List.map_cons, expandData, Bool.false_eq_true, if_false]
      rw [plain_card_is_identity xs (acc ++ [some x]) (c + 1)]
      simp [Nat.add_assoc, Nat.add_comm 1]

/-- `x nR`: the value and `n` further copies of it (MCNP manual: "repeat the preceding entry n times") -/
theorem repeat_spec (x : α) (n : Nat) (rest : List (DTok α)) (acc : List (Option α)) (c : Nat) :
    expandData none (.num x :: .rep n :: rest) acc c =
      expandData none rest (acc ++ some x :: List.replicate n (some x)) (c + 2) := by
  simp [expandData, List.getLast?_append]

/-- `x fM`: the value followed by `x * f` -/
theorem multiply_spec (x f : α) (rest : List (DTok α)) (acc : List (Option α)) (c : Nat) :
    expandData none (.num x :: .mul f :: rest) acc c =
      expandData none rest (acc ++ [some x, some (x * f)]) (c + 2) := by
  simp [expandData, List.getLast?_append]

/-- `a nI b`: `a`, then `n` equally spaced interior values, then `b` -/
theorem interpolate_spec (a b : α) (n : Nat) (rest : List (DTok α)) (acc : List (Option α)) (c : Nat) :
    expandData none (.num a :: .interp n :: .num b :: rest) acc c =
      expandData none rest (acc ++ some a :: (linspace a b n).map some) (c + 3) := by
  simp [expandData, List.getLast?_append]

/-- the interpolation contributes exactly `n + 1` entries, the last one being the upper bound: cell
positions after an `nI` are not shifted -/
theorem linspace_length (a b : α) (n : Nat) : (linspace a b n).length = n + 1 := by
  simp [linspace]

theorem linspace_last (a b : α) (n : Nat) : (linspace a b n).getLast? = some b := by
  simp [linspace]

/-- a repeated zero stays zero: cells covered by `0 nR` all have zero importance -/
theorem repeat_zero (n : Nat) (i : Nat) (h : i < n + 1) :
    ((some (0 : α)) :: List.replicate n (some (0 : α)))[i]? = some (some 0) :=
  List.getElem?_replicate_of_lt (n := n + 1) h
end Scalar

/-! ### which cells are left out: the importance of a cell and when it is zero -/
section Order
variable {β : Type} [LinearOrder β]

theorem maxOpt_some (a b : β) : maxOpt (some a) (some b) = some (max a b) := by
  simp [maxOpt, ← max_def_lt]

theorem foldl_maxOpt_some (xs : List β) (x : β) : (xs.map some).foldl maxOpt (some x) = some (xs.foldl max x) := by
  induction xs generalizing x with
  | nil => rfl
  | cons y ys ih => simp only [List.map_cons, List.foldl_cons, maxOpt_some, ih]

/-- **with several `IMP:x` cards the importance of the cell in position `i` is the maximum of the entries `i`** -/
theorem cards_rank_maximum (c : List (Option β)) (cs : List (List (Option β))) (i : Nat) (x : β) (xs : List β)
    (hc : c.getD i none = some x) (hcs : cs.map (·.getD i none) = xs.map some) :
    rankMax c cs i = some (xs.foldl max x) := by
  unfold rankMax
  simp only [List.foldl_cons, hc, maxOpt_some, max_self]
  rw [← foldl_maxOpt_some, ← hcs, List.foldl_map]

theorem foldl_max_le_iff (xs : List β) (x b : β) : xs.foldl max x ≤ b ↔ ∀ v ∈ x :: xs, v ≤ b := by
  induction xs generalizing x with
  | nil => simp
  | cons y ys ih => rw [List.foldl_cons, ih]; simp only [List.forall_mem_cons, max_le_iff, and_assoc]

/-- **the maximum of non-negative importances is zero exactly when every one of them is zero**: a cell is left out
iff its importance is zero for every particle type -/
theorem maximum_zero_iff_all_zero [Zero β] (x : β) (xs : List β) (hnn : ∀ v ∈ x :: xs, 0 ≤ v) :
    xs.foldl max x = 0 ↔ ∀ v ∈ x :: xs, v = 0 := by
  have hge : ∀ v ∈ x :: xs, v ≤ xs.foldl max x := (foldl_max_le_iff xs x _).mp le_rfl
  constructor
  · intro h v hv
    exact le_antisymm (h ▸ hge v hv) (hnn v hv)
  · intro h
    refine le_antisymm ((foldl_max_le_iff xs x 0).mpr fun v hv => (h v hv).le) ?_
    rw [← h x List.mem_cons_self]
    exact hge x List.mem_cons_self

/-- the decision for one cell, keywords on the card first: with `IMP` keywords the cell is left out iff all of
them are zero, whatever the data cards say -/
theorem keyword_importance_zero_iff [Zero β] (v : β) (vs : List β) (cards : List (Option β)) (rank : Nat)
    (hnn : ∀ w ∈ v :: vs, 0 ≤ w) :
    cellImportance (v :: vs) cards rank = some 0 ↔ ∀ w ∈ v :: vs, w = 0 := by
  have : cellImportance (v :: vs) cards rank = some (vs.foldl max v) := by
    simp only [cellImportance, ← max_def_lt]
  rw [this, Option.some.injEq]
  exact maximum_zero_iff_all_zero v vs hnn

/-- without `IMP` keywords the importance is the entry of the data cards at the position of the card -/
theorem data_card_importance (cards : List (Option β)) (rank : Nat) :
    cellImportance ([] : List β) cards rank = cards.getD rank none := rfl
end Order

/-- the model the driver runs is the generic one at `Float` -/
theorem two_cards_maximum (a b : Float) :
    importanceCards [[some a], [some b]] = .ok [some (if a < b then b else a)] := by
  simp [importanceCards, importanceCardsG, rankMax, maxOpt]

example : expandData (α := Nat) none [.num 1, .rep 2, .num 0, .rep 1] [] 0 =
    .ok ([some 1, some 1, some 1, some 0, some 0], 4) := by
  simp [expandData, List.replicate]

end T4V.C12
