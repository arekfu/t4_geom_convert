import T4V.Model.Keywords
import T4V.Proofs.KwArray
import T4V.Proofs.OptTokens
import T4V.Proofs.Bind
/-!
# Property C15 — LIKE n BUT equals the explicit cell card it abbreviates
-/
namespace T4V.C15

/-- the value of a scalar option as the item that set it -/
def get (k : KW) : Field → Option Item
  | .u => k.u.map .u
  | .mat => k.mat.map .mat
  | .rho => k.rho.map .rho
  | .lat => k.lat.map .lat
  | .fill => k.fill.map fun | .simple s u ps => .fill s u ps | .arr s rs us ps => .fillArr s rs us ps
  | .trcl => k.trcl.map fun (s, ps) => .trcl s ps
  | .imp => none

/-- the last item of a list that assigns field `f` -/
def lastOf (f : Field) (is : List Item) : Option Item := is.reverse.find? (·.field == f)

theorem get_set (k : KW) (i : Item) (f : Field) (hf : f ≠ .imp) :
    get (k.set i) f = if i.field = f then some i else get k f := by
  cases f with
  | imp => exact absurd rfl hf
  | _ => cases i <;> rfl

/-- **the later keyword wins** (every scalar option: U, MAT, RHO, LAT, FILL, TRCL): after any list of
option items the value of a field is the one set by the last item naming it, else the earlier value -/
theorem later_keyword_wins (f : Field) (hf : f ≠ .imp) : ∀ (is : List Item) (k : KW),
    get (applyFrom k is) f = (lastOf f is).orElse fun _ => get k f := by
  intro is k
  rw [lastOf, List.find?_eq_findSome?_guard]
  refine foldl_last KW.set (get · f) _ (fun k i => ?_) is k
  rw [get_set k i f hf]
  by_cases h : i.field = f <;> simp [Option.guard, h]

/-- `LIKE n BUT opts` (= `apply_but`: the options of cell n followed by `opts`): an option named in
`opts` takes its value from `opts`, every other option keeps the value it has in cell n -/
theorem like_but (f : Field) (hf : f ≠ .imp) (base but : List Item) :
    get (applyItems (base ++ but)) f =
      match lastOf f but with
      | some i => some i
      | none => get (applyItems base) f := by
  have h1 : applyItems (base ++ but) = applyFrom (applyItems base) but := by
    simp [applyItems, applyFrom, List.foldl_append]
  rw [h1, later_keyword_wins f hf]
  cases lastOf f but <;> rfl

/-- the explicit card the LIKE-BUT card abbreviates: cell n's options with the overridden ones removed,
followed by the new ones — same value for every scalar option -/
theorem like_but_equals_explicit (f : Field) (hf : f ≠ .imp) (base but : List Item) :
    get (applyItems (base ++ but)) f =
      get (applyItems (base.filter (fun i => !(but.any fun j => j.field == i.field)) ++ but)) f := by
  rw [like_but f hf, like_but f hf]
  cases hb : lastOf f but with
  | some i => rfl
  | none =>
    -- `but` does not name `f`: the filter keeps every item of `base` that names `f`
    have hnone : ∀ j ∈ but, (j.field == f) = false := by
      intro j hj
      unfold lastOf at hb
      have := List.find?_eq_none.mp hb j (by simpa using hj)
      simpa using this
    simp only [applyItems]
    rw [later_keyword_wins f hf, later_keyword_wins f hf]
    congr 1
    rw [lastOf, lastOf, ← List.filter_reverse, List.find?_filter]
    congr 1
    funext i
    by_cases hi : i.field = f
    · simpa [hi] using hnone
    · simp [hi]

/-- chains of LIKE cells: the options are concatenated in order, so the statement iterates -/
theorem like_chain (f : Field) (hf : f ≠ .imp) (base : List Item) (buts : List (List Item)) :
    get (applyItems (buts.foldl (· ++ ·) base)) f =
      (buts.foldl (fun acc but => match lastOf f but with | some i => some i | none => acc) (get (applyItems base) f)) := by
  induction buts generalizing base with
  | nil => rfl
  | cons b rest ih =>
    simp only [List.foldl_cons]
    rw [ih (base ++ b), like_but f hf]

/-- `d.get(p)` on the per-particle importances -/
def lookup (d : List (String × String)) (p : String) : Option String := (d.find? (·.1 == p)).map (·.2)

/-- importances are kept per particle; one `IMP:a,b=v` item sets every particle it lists -/
theorem lookup_after_imp (k : KW) (ps : List String) (v q : String) :
    lookup (k.set (.imp ps v)).imp q = if q ∈ ps then some v else lookup k.imp q := by
  simp only [KW.set]
  generalize k.imp = d
  induction ps generalizing d with
  | nil => simp
  | cons p rest ih =>
    simp only [List.foldl_cons, ih, List.mem_cons]
    rw [show lookup (assoc d p v) q = if q = p then some v else lookup d q from lookup_set d p q v]
    by_cases h1 : q ∈ rest <;> by_cases h2 : q = p <;> simp [h1, h2]

/-- an item that is not an importance leaves the importances alone -/
theorem imp_set_other (k : KW) (i : Item) (h : i.field ≠ .imp) : (k.set i).imp = k.imp := by
  cases i with
  | imp ps v => exact absurd rfl h
  | _ => rfl

/-- **importance of a particle after LIKE n BUT**: the last `IMP` item (of cell n's options followed by
the BUT options) that lists the particle gives its value -/
theorem later_importance_wins (q : String) : ∀ (is : List Item) (k : KW),
    lookup (applyFrom k is).imp q =
      ((is.reverse.findSome? fun i => match i with
          | .imp ps v => if q ∈ ps then some v else none
          | _ => none).orElse fun _ => lookup k.imp q) := by
  refine foldl_last KW.set (fun k => lookup k.imp q) _ (fun k i => ?_)
  cases i with
  | imp ps v => rw [lookup_after_imp]; split <;> simp [*]
  | _ => simp [KW.set]

/-! ### token level -/

theorem arrNums_acc (star : Bool) (rs us : List String) (acc acc0 : List Item) (tok : String) (ns : List String) :
    arrNums star rs us (acc0 ++ acc) tok ns = (arrNums star rs us acc tok ns).map fun r => (r.1, acc0 ++ r.2) := by
  unfold arrNums
  split <;> simp [Except.map, List.append_assoc]

theorem arrTok_acc (star : Bool) (rs : List String) (need : Int) (us : List String) (acc acc0 : List Item) (tok : String) :
    arrTok star rs need us (acc0 ++ acc) tok = (arrTok star rs need us acc tok).map fun r => (r.1, acc0 ++ r.2) := by
  unfold arrTok
  -- the outcomes of `after` (still waiting, full, too many) pass `acc` on unchanged
  cases classifyU tok with
  | num => simp only; split <;> (try split) <;> simp [Except.map]
  | rep n =>
    simp only
    cases us.getLast? with
    | none => simp [Except.map]
    | some v => simp only; split <;> (try split) <;> simp [Except.map]
  | shorthand => simp [Except.map]
  | bad => simp [Except.map]

/-- the items already emitted do not influence what is emitted next -/
theorem kwStep_acc (s : KwState) (acc acc0 : List Item) (tok : String) :
    kwStep (s, acc0 ++ acc) tok = (kwStep (s, acc) tok).map fun r => (r.1, acc0 ++ r.2) := by
  cases s with
  | fillRng star rs =>
    simp only [kwStep]
    split
    · simp [Except.map]
    · cases rangesSize rs with
      | error e => simp [Except.map]
      | ok need =>
        simp only
        split
        · split <;> simp [Except.map]
        · exact arrTok_acc star rs need [] acc acc0 tok
  | fillArr star rs need us => simp only [kwStep]; exact arrTok_acc star rs need us acc acc0 tok
  | fillArrNums star rs us ns => simp only [kwStep]; exact arrNums_acc star rs us acc acc0 tok ns
  | fillDrop star rs => simp [kwStep, Except.map]
  -- every other state emits at most one item, behind `acc`
  | _ => simp [kwStep, Except.map, List.append_assoc] <;> (try split) <;> simp_all

theorem kwRun_acc : ∀ (toks : List String) (s : KwState) (acc acc0 : List Item),
    kwRun (s, acc0 ++ acc) toks = (kwRun (s, acc) toks).map fun r => (r.1, acc0 ++ r.2)
  | [], s, acc, acc0 => by simp [kwRun, Except.map]
  | t :: ts, s, acc, acc0 => by
      simp only [kwRun, kwStep_acc]
      cases h : kwStep (s, acc) t with
      | error e => simp [Except.map]
      | ok r =>
        obtain ⟨s', acc'⟩ := r
        simp only [Except.map]
        exact kwRun_acc ts s' acc' acc0

theorem kwFinish_acc (s : KwState) (acc acc0 : List Item) :
    kwFinish (s, acc0 ++ acc) = (kwFinish (s, acc)).map fun r => acc0 ++ r := by
  cases s with
  | fillRng star rs =>
    simp only [kwFinish]
    cases rangesSize rs with
    | error e => simp [Except.map]
    | ok need => simp only; split <;> simp [Except.map, List.append_assoc]
  | _ => simp [kwFinish, Except.map, List.append_assoc]

/-- states reached only through index ranges that have no element (`fill=1:0 …`): the code then empties its token list
(`del kw_list[-0:]`), so whatever follows — the BUT options included — is lost -/
def degenerate : KwState → Bool
  | .fillRng .. => true
  | .fillDrop .. => true
  | _ => false

/-- both sides are `groupTokens` started in state `s` instead of `.idle`: with `acc0` already emitted, the items
come out behind `acc0` -/
theorem finish_run_from (s : KwState) (acc0 : List Item) (ts : List String) (ib : List Item)
    (h : (match kwRun (s, []) ts with | .ok st => kwFinish st | .error e => .error e) = .ok ib) :
    (match kwRun (s, acc0) ts with | .ok st => kwFinish st | .error e => .error e) = .ok (acc0 ++ ib) := by
  have hr := kwRun_acc ts s [] acc0
  simp only [List.append_nil] at hr
  rw [hr]
  cases hk : kwRun (s, []) ts with
  | error e => simp [hk] at h
  | ok r =>
    obtain ⟨s', acc'⟩ := r
    simp only [hk] at h
    simp only [Except.map, kwFinish_acc, h]

/-- where the options may end, a keyword token does what the end does — it closes the keyword being read — and starts
the next keyword -/
theorem kwStep_of_finish (s : KwState) (acc ia : List Item) (t : String) (hf : kwFinish (s, acc) = .ok ia)
    (hd : degenerate s = false) (ht : numericLead t = false) : kwStep (s, acc) t = .ok (startKeyword t, ia) := by
  -- the options may end in `idle` and in the three states that collect numeric arguments (there the step emits the
  -- item `kwFinish` emits); in every other state `hf` or `hd` is false
  cases s <;> simp_all [kwFinish, kwStep, arrNums, degenerate]

/-- **the token-level reading commutes with `apply_but`**: if the options of cell n and the BUT options
each read as item lists, and the BUT options begin with a keyword (not with a number, which a trailing
FILL/TRCL of cell n would swallow), then the concatenated options read as the concatenated items — so
the item-level theorems above apply to what `parse_keywords` does on the tokens -/
theorem grouping_commutes_with_but (a b : List String) (ia ib : List Item)
    (ha : groupTokens a = .ok ia) (hb : groupTokens b = .ok ib)
    (hb0 : ∀ t, b.head? = some t → numericLead t = false)
    (hz : ∀ s acc, kwRun (.idle, []) a = .ok (s, acc) → degenerate s = false) :
    groupTokens (applyBut a b) = .ok (ia ++ ib) := by
  unfold groupTokens applyBut at *
  rw [kwRun_append]
  cases hka : kwRun (KwState.idle, []) a with
  | error e => simp [hka] at ha
  | ok r =>
    obtain ⟨s, acc⟩ := r
    simp only [hka] at ha ⊢
    cases b with
    | nil =>
      cases hb
      simp only [kwRun, ha, List.append_nil]
    | cons t ts =>
      simp only [kwRun] at hb ⊢
      rw [kwStep_of_finish s acc ia t ha (hz s acc hka) (hb0 t rfl)]
      exact finish_run_from (startKeyword t) ia ts ib hb

/-- hence, at the token level: an option of the LIKE-BUT card has the value the BUT tokens give it, else the
value of cell n's tokens -/
theorem like_but_tokens (f : Field) (hf : f ≠ .imp) (a b : List String) (ia ib : List Item)
    (ha : groupTokens a = .ok ia) (hb : groupTokens b = .ok ib)
    (hb0 : ∀ t, b.head? = some t → numericLead t = false)
    (hz : ∀ s acc, kwRun (.idle, []) a = .ok (s, acc) → degenerate s = false) :
    ∃ k, parseKeywords (applyBut a b) = .ok k ∧
      get k f = match lastOf f ib with
        | some i => some i
        | none => get (applyItems ia) f := by
  refine ⟨applyItems (ia ++ ib), ?_, like_but f hf ia ib⟩
  simp [parseKeywords, grouping_commutes_with_but a b ia ib ha hb hb0 hz, Except.map]

example : get (applyItems ([.mat "1", .rho "-2.5", .u "3", .imp ["n"] "1"] ++ [.rho "-1.0", .u "4"])) .rho
    = some (.rho "-1.0") := by decide

open T4V.CC in
/-- **`apply_but` on the text is `applyBut` on the tokens**: the code appends a blank and the BUT options to the
options text of cell n; tokenising the result (`parse_one_cell_worker`) gives the tokens of cell n's options followed
by the tokens of the BUT options — so the token-level theorems above (`like_but_tokens`, `like_chain`) speak about
what the code does with the card texts -/
theorem apply_but_on_text (a b : List Char) (ha : a ≠ []) (hb : b ≠ [])
    (hlast : ∀ c, a.getLast? = some c → c ≠ ':' ∧ c ≠ ' ')
    (hfirst : ∀ c, b.head? = some c → c ≠ ':' ∧ c ≠ ' ') :
    (optTokens (a ++ ' ' :: b)).map String.ofList
      = applyBut ((optTokens a).map String.ofList) ((optTokens b).map String.ofList) := by
  rw [optTokens_append a b ha hb hlast hfirst, List.map_append]
  rfl

/-- **an array FILL is read as it is written** (`parse_fill_kw`, array form): after the keyword, the index ranges,
exactly as many plain numbers as the ranges have elements, and any numbers, the cell's FILL holds these ranges, these
universes in this order, and the numbers as its transformation arguments — the same record whether the text stands
on an explicit card or comes out of `LIKE n BUT` -/
theorem array_fill_read_as_written (star : Bool) (kw r : String) (rs us ps : List String) (need : Int)
    (hkw : startKeyword kw = .fillFirst star)
    (hr : contains r ":" = true) (hrs : ∀ x ∈ rs, contains x ":" = true)
    (hsz : rangesSize (r :: rs) = .ok need)
    (hus : ∀ u ∈ us, classifyU u = .num ∧ contains u ":" = false)
    (hlen : (us.length : Int) = need) (hpos : 0 < need)
    (hps : ∀ p ∈ ps, numericLead p = true) :
    (parseKeywords (kw :: r :: (rs ++ us ++ ps))).map (·.fill) = .ok (some (.arr star (r :: rs) us ps)) := by
  unfold parseKeywords groupTokens
  rw [array_fill_reads star kw r rs us ps need [] hkw hr hrs hsz hus hlen hpos hps]
  simp [kwFinish, Except.map, applyItems, applyFrom, KW.set]

end T4V.C15
