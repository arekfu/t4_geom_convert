import T4V.Proofs.Fill
/-!
# Property C05 — universes and FILL: points are located through the hierarchy

Model: `T4V.Model.Fill` (`pot_fill`).  `inCell k p`: the point `p`, given in the frame of cell `k`'s
universe, lies in cell `k`'s own region; `move c p`: the coordinates of `p` in the frame of the universe
filling container `c` (the FILL transformation, or the container's TRCL when the FILL has none — which
of the two is decided in `pot_fill` and checked by the monitor).  Both are arbitrary here: the theorems
hold for every geometry and every transformation at every level.
-/
namespace T4V.C05
variable {P : Type}

/-- a new cell = container ∧ filler leaf seen through the container's frame map -/
theorem wrap_contains (inCell : Nat → P → Bool) (move : Nat → P → P) (l : FLeaf) (c : FCell) (p : P) :
    (l.wrap c).contains inCell move p = (inCell c.id p && l.contains inCell move (move c.id p)) := by
  simp [FLeaf.contains, FLeaf.wrap, containsPath]

/-- **the part of a universe lying outside its container produces nothing**, and a leaf that contains a
point lies inside the cell it was generated from -/
theorem leaf_inside (cells : List FCell) (inCell : Nat → P → Bool) (move : Nat → P → P) :
    ∀ (fuel : Nat) (c : FCell) (leaves : List FLeaf), fillCells cells fuel c = some leaves →
      ∀ l ∈ leaves, ∀ p, l.contains inCell move p = true → inCell c.id p = true := by
  refine fillCells_induct cells (motive := fun c l => ∀ p, l.contains inCell move p = true → inCell c.id p = true)
    (fun c _ p hp => by simpa [FLeaf.contains, containsPath] using hp)
    (fun c e l _ _ _ p hp => ?_)
  rw [wrap_contains] at hp
  exact (Bool.and_eq_true _ _ ▸ hp).1

/-- **exactly-one location through the hierarchy**: if in every universe every point lies in exactly one
cell, then every point of a (filled or unfilled) cell lies in exactly one of the cells `pot_fill`
generates from it — at any nesting depth, with any transformation at each level, with one universe
filling any number of containers -/
theorem located_in_exactly_one (cells : List FCell) (inCell : Nat → P → Bool) (move : Nat → P → P)
    (hpart : ∀ (u : Nat) (q : P), ((cells.filter (·.univ == u)).filter fun e => inCell e.id q).length = 1) :
    ∀ (fuel : Nat) (c : FCell) (leaves : List FLeaf), fillCells cells fuel c = some leaves → ∀ p,
      (leaves.filter fun l => l.contains inCell move p).length = if inCell c.id p then 1 else 0
  | 0, _, _, h => by simp [fillCells] at h
  | fuel + 1, c, leaves, h => by
      intro p
      unfold fillCells at h
      cases hf : c.fill with
      | none =>
        simp only [hf, Option.some.injEq] at h
        subst h
        by_cases hc : inCell c.id p = true <;> simp [FLeaf.contains, containsPath, hc]
      | some u =>
        simp only [hf, Option.map_eq_some_iff] at h
        obtain ⟨ls, hls, rfl⟩ := h
        -- a wrapped leaf contains `p` iff the container does and the leaf contains `p` moved into the filling universe
        have e : ((fun l : FLeaf => l.contains inCell move p) ∘ fun l : FLeaf => l.wrap c) =
            fun l : FLeaf => inCell c.id p && l.contains inCell move (move c.id p) :=
          funext fun l => wrap_contains inCell move l c p
        rw [List.filter_map, List.length_map, e]
        cases inCell c.id p with
        | false => rw [List.filter_eq_nil_iff.mpr fun _ _ h => by simp at h]; rfl
        | true =>
          simp only [Bool.true_and, if_true]
          rw [count_flatten _ (fun e => inCell e.id (move c.id p)) _ ls hls
            (fun e _ l hl => located_in_exactly_one cells inCell move hpart fuel e l hl (move c.id p)),
            hpart u (move c.id p)]

/-- **provenance**: the comment of a generated cell lists (filler cell, container) for every level, the
filler being the unfilled cell at the bottom of the chain; material and density are the filler's -/
theorem provenance (cells : List FCell) :
    ∀ (fuel : Nat) (c : FCell) (leaves : List FLeaf), fillCells cells fuel c = some leaves →
      ∀ l ∈ leaves, l.origin = l.path.map (fun k => (l.base, k)) ∧
        (∃ b ∈ c :: cells, b.id = l.base ∧ b.fill = none ∧ l.mat = b.mat ∧ l.rho = b.rho) ∧
        (l.path = [] ∨ l.path.getLast? = some c.id) := by
  refine fillCells_induct cells (motive := fun c l => l.origin = l.path.map (fun k => (l.base, k)) ∧
      (∃ b ∈ c :: cells, b.id = l.base ∧ b.fill = none ∧ l.mat = b.mat ∧ l.rho = b.rho) ∧
      (l.path = [] ∨ l.path.getLast? = some c.id))
    (fun c hf => ⟨rfl, ⟨c, List.mem_cons_self, rfl, hf, rfl, rfl⟩, Or.inl rfl⟩)
    (fun c e l' _ he ih => ?_)
  obtain ⟨ho, ⟨b, hb, hbid, hbf, hbm, hbr⟩, _⟩ := ih
  refine ⟨?_, ⟨b, ?_, hbid, hbf, hbm, hbr⟩, Or.inr (by simp [FLeaf.wrap])⟩
  · simp only [FLeaf.wrap, List.map_append, List.map_cons, List.map_nil, ho]
    congr 2
    -- the filler recorded with the new container is the base cell, whether or not the path was empty
    cases hp : l'.path with
    | nil => simp
    | cons k ks => simp
  · rcases List.mem_cons.mp hb with rfl | hb'
    · exact List.mem_cons_of_mem _ he
    · exact List.mem_cons_of_mem _ hb'

/-! ### which frame: the FILL transformation, or else the container's TRCLs -/

/-- **the FILL transformation takes precedence**: when a cell has both, its TRCL does not enter the frame of the
filling universe -/
theorem fill_transformation_overrides_trcl (c : FCell) (t : Nat) (h : c.filltr = some t) : c.frameTrs = [t] := by
  simp [FCell.frameTrs, h]

/-- when the FILL has no transformation the universe is placed by the container's TRCLs, in their order -/
theorem trcl_places_the_universe (c : FCell) (h : c.filltr = none) : c.frameTrs = c.trcl := by
  simp [FCell.frameTrs, h]

/-- **the transformations a generated cell has gone through**: for the containers on its path, innermost first, the
frame transformations of each, in that order — at any nesting depth -/
theorem frame_choice (cells : List FCell) :
    ∀ (fuel : Nat) (c : FCell) (leaves : List FLeaf), fillCells cells fuel c = some leaves →
      ∀ l ∈ leaves, ∃ cs : List FCell, cs.map (·.id) = l.path ∧ (∀ x ∈ cs, x ∈ c :: cells) ∧
        l.moves = cs.flatMap FCell.frameTrs := by
  refine fillCells_induct cells (motive := fun c l => ∃ cs : List FCell, cs.map (·.id) = l.path ∧
      (∀ x ∈ cs, x ∈ c :: cells) ∧ l.moves = cs.flatMap FCell.frameTrs)
    (fun c _ => ⟨[], rfl, by simp, rfl⟩)
    (fun c e l' _ he ih => ?_)
  obtain ⟨cs, hcs, hin, hmv⟩ := ih
  refine ⟨cs ++ [c], by simp [FLeaf.wrap, hcs], ?_, by simp [FLeaf.wrap, hmv]⟩
  intro x hx
  rcases List.mem_append.mp hx with h1 | h2
  · rcases List.mem_cons.mp (hin x h1) with rfl | h3
    · exact List.mem_cons_of_mem _ he
    · exact List.mem_cons_of_mem _ h3
  · cases List.mem_singleton.mp h2; exact List.mem_cons_self

/-- a point of the outermost container's frame, carried through the containers (outermost first) into the frame of
the base cell: each container maps it by its frame transformations (`act t p`: the coordinates of `p` before the
move `t`, MCNP's `toAux`; the last move applied is undone first) -/
def transportCells (act : Nat → P → P) : List FCell → P → P
  | [], p => p
  | c :: inner, p => transportCells act inner (c.frameTrs.foldr act p)

/-- **the recorded moves realise the nested frame maps**: undoing the moves of a generated cell, last one first, is
the same as walking the point through the containers from the outside in -/
theorem moves_transport (act : Nat → P → P) (cs : List FCell) (p : P) :
    transportCells act cs.reverse p = (cs.flatMap FCell.frameTrs).foldr act p := by
  induction cs generalizing p with
  | nil => rfl
  | cons c cs ih =>
    have happ : ∀ (a : List FCell) (q : P),
        transportCells act (a ++ [c]) q = c.frameTrs.foldr act (transportCells act a q) := by
      intro a
      induction a with
      | nil => intro q; rfl
      | cons x xs ihx => intro q; simp only [List.cons_append, transportCells]; exact ihx _
    rw [List.reverse_cons, happ, ih, List.flatMap_cons, List.foldr_append]

-- cell 1 is filled with universe 5 (cells 2 and 3), cell 3 with universe 6 (cell 4): the FILL transformation 71 of cell 1
-- overrides its TRCL 72, and the TRCLs 73, 74 of the inner container come first
example : fillCells [{ id := 1, univ := 0, fill := some 5, filltr := some 71, trcl := [72] },
      { id := 2, univ := 5, mat := "3", rho := "-1.0" },
      { id := 3, univ := 5, fill := some 6, trcl := [73, 74] }, { id := 4, univ := 6, mat := "7", rho := "-2" }] 5
    { id := 1, univ := 0, fill := some 5, filltr := some 71, trcl := [72] } =
    some [{ base := 2, path := [1], origin := [(2, 1)], mat := "3", rho := "-1.0", moves := [71] },
          { base := 4, path := [3, 1], origin := [(4, 3), (4, 1)], mat := "7", rho := "-2", moves := [73, 74, 71] }] := by
  decide

end T4V.C05
