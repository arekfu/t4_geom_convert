import T4V.Text.NormFloat
import T4V.Proofs.GeomComp
import T4V.Proofs.NormFloat
import T4V.Props.C05
import T4V.Props.C10
import Mathlib.Data.List.Nodup
import Mathlib.Tactic.Ring
/-!
# Property C09 — density spellings (the `normalize_float` part)

Model: `T4V.Text.NormFloat`.  The ownership part of C09 (the composition is that of the leaf cell of
the universe hierarchy) is carried by the point monitor and by the FILL theorems of C05.
-/
namespace T4V.C09

/-- a plain decimal literal: optional sign, integer digits, point, fraction digits -/
structure PlainDec where
  sign : Option Char
  ip : List Char
  fp : List Char

def PlainDec.WF (d : PlainDec) : Prop :=
  (∀ c, d.sign = some c → isSign c = true) ∧ (∀ c ∈ d.ip, isDig c = true) ∧ (∀ c ∈ d.fp, isDig c = true)

def PlainDec.chars (d : PlainDec) : List Char :=
  (match d.sign with | some c => [c] | none => []) ++ d.ip ++ '.' :: d.fp

def optC (o : Option Char) : List Char := match o with | some c => [c] | none => []

def isMarker (c : Char) : Bool := c == 'e' || c == 'E' || c == 'd' || c == 'D'

theorem marker_props (c : Char) (h : isMarker c = true) : isDig c = false ∧ isSign c = false ∧ (c == '.') = false := by
  simp only [isMarker, Bool.or_eq_true, beq_iff_eq] at h
  rcases h with ((rfl | rfl) | rfl) | rfl <;> decide

theorem sign_props (c : Char) (h : isSign c = true) : isDig c = false ∧ (c == '.') = false ∧ isMarker c = false := by
  simp only [isSign, Bool.or_eq_true, beq_iff_eq] at h
  rcases h with rfl | rfl <;> decide

/-- the contrapositives of the first clauses of the two above -/
theorem dig_props (c : Char) (h : isDig c = true) : isSign c = false ∧ isMarker c = false := by
  refine ⟨Bool.eq_false_iff.mpr fun hs => ?_, Bool.eq_false_iff.mpr fun hm => ?_⟩
  · rw [(sign_props c hs).1] at h; cases h
  · rw [(marker_props c hm).1] at h; cases h

theorem nfMarkers_keep (l : List Char) (h : ∀ c ∈ l, isMarker c = false) : nfMarkers l = l := by
  refine (List.map_congr_left fun c hc => ?_).trans (List.map_id l)
  have hm := h c hc
  simp only [isMarker, Bool.or_eq_false_iff] at hm
  simp [hm]

/-! ### literals of known shape and their `NF.parts` -/

/-- sign, digits, optionally a point and digits, then `tl` -/
def litChars (sg : Option Char) (ip fp : List Char) (pt : Bool) (tl : List Char) : List Char :=
  optC sg ++ (ip ++ ((if pt then '.' :: fp else []) ++ tl))

/-- the parts are what they are called, and `tl` cannot be taken for more of the mantissa -/
structure LitOK (sg : Option Char) (ip fp : List Char) (pt : Bool) (tl : List Char) : Prop where
  hsg : ∀ c, sg = some c → isSign c = true
  hip : ∀ c ∈ ip, isDig c = true
  hfp : ∀ c ∈ fp, isDig c = true
  hmant : ip ≠ [] ∨ pt = true
  hnofp : pt = false → fp = []
  htl : Scan.Stop isDig tl
  hdot : pt = false → Scan.Stop (· == '.') tl

theorem splitSign_optC (sg : Option Char) (r : List Char) (hsg : ∀ c, sg = some c → isSign c = true)
    (hr : Scan.Stop isSign r) : splitSign (optC sg ++ r) = (optC sg, r) := by
  cases sg with
  | some c => simp [optC, splitSign, hsg c rfl]
  | none =>
    cases r with
    | nil => rfl
    | cons a r => simp [optC, splitSign, Scan.stop_iff.mp hr a r rfl]

theorem parts_lit {sg : Option Char} {ip fp : List Char} {pt : Bool} {tl : List Char} (h : LitOK sg ip fp pt tl) :
    NF.parts (litChars sg ip fp pt tl) = ⟨optC sg, ip, fp, tl, pt⟩ := by
  have hdig : ∀ x ∈ ip, isSign x = false := fun x hx => (dig_props x (h.hip x hx)).1
  -- the mantissa begins with a digit or the point
  have h0 : splitSign (litChars sg ip fp pt tl) = (optC sg, ip ++ ((if pt then '.' :: fp else []) ++ tl)) :=
    splitSign_optC _ _ h.hsg <| h.hmant.elim (fun hne => Scan.Stop.of_ne_nil hne hdig)
      (fun hpt => Scan.Stop.append hdig (by rw [hpt]; exact .cons rfl))
  unfold NF.parts
  rw [h0]
  cases pt with
  | true =>
    have h1 := Scan.scan (g := '.' :: (fp ++ tl)) h.hip (.cons rfl)
    have h2 := Scan.scan h.hfp h.htl
    simp only [if_true, List.cons_append, h1.1, h1.2, CMP.fracSplit_dot, h2.1, h2.2]
  | false =>
    have h1 := Scan.scan h.hip h.htl
    cases h.hnofp rfl
    simp only [Bool.false_eq_true, if_false, List.nil_append, h1.1, h1.2]
    cases tl with
    | nil => rfl
    | cons a r => rw [CMP.fracSplit_ne a r (ne_of_beq_false (Scan.stop_iff.mp (h.hdot rfl) a r rfl))]

theorem nfStripZeros_lit {sg : Option Char} {ip fp : List Char} {pt : Bool} {tl : List Char} (h : LitOK sg ip fp pt tl) :
    nfStripZeros (litChars sg ip fp pt tl) =
      if pt && tl.isEmpty && fp.getLast? == some '0' then litChars sg ip (stripZerosR fp) true []
      else litChars sg ip fp pt tl := by
  rw [NF.nfStripZeros_eq, parts_lit h]
  simp [litChars]

theorem not_both_empty {a b : List Char} (hm : a ≠ [] ∨ b ≠ []) : (a.isEmpty && b.isEmpty) = false := by
  rcases hm with hm | hm <;> simp [hm]

theorem nfInsertE_lit {sg : Option Char} {ip fp : List Char} {pt : Bool} {tl : List Char} (h : LitOK sg ip fp pt tl)
    (hm : ip ≠ [] ∨ fp ≠ []) :
    nfInsertE (litChars sg ip fp pt tl) =
      match (generalizing := false) tl with
      | c :: ex =>
          if isSign c && !ex.isEmpty && ex.all isDig then litChars sg ip fp pt ('e' :: c :: ex)
          else litChars sg ip fp pt tl
      | [] => litChars sg ip fp pt tl := by
  rw [NF.nfInsertE_eq, parts_lit h]
  simp only [not_both_empty hm, Bool.false_eq_true, if_false]
  cases tl with
  | nil => rfl
  | cons c ex => simp [litChars]

theorem optC_forall {o : Option Char} {P : Char → Prop} : (∀ c ∈ optC o, P c) ↔ ∀ c, o = some c → P c := by
  cases o <;> simp [optC]

/-- pass 4 changes the tail only: sign, digits and point are no markers -/
theorem nfMarkers_lit {sg : Option Char} {ip fp : List Char} {pt : Bool} {tl : List Char} (h : LitOK sg ip fp pt tl) :
    nfMarkers (litChars sg ip fp pt tl) = litChars sg ip fp pt (nfMarkers tl) := by
  have hsg : ∀ c ∈ optC sg, isMarker c = false := optC_forall.mpr fun x hx => (sign_props x (h.hsg x hx)).2.2
  have hip : ∀ c ∈ ip, isMarker c = false := fun c hc => (dig_props c (h.hip c hc)).2
  have hfp : ∀ c ∈ fp, isMarker c = false := fun c hc => (dig_props c (h.hfp c hc)).2
  simp only [litChars, NF.nfMarkers_append, nfMarkers_keep _ hsg, nfMarkers_keep _ hip]
  cases pt with
  | false => rfl
  | true => rw [if_pos rfl, ← List.singleton_append, NF.nfMarkers_append, nfMarkers_keep _ hfp]; rfl

/-! ### plain decimals: the key, and what number it stands for -/

/-- the fraction digits the key keeps: trailing zeros stripped, a lone `0` if nothing is left -/
def keyFrac (fp : List Char) : List Char := if stripZerosR fp = [] then ['0'] else stripZerosR fp

/-- the canonical plain decimal a key stands for -/
def keyDec (d : PlainDec) : PlainDec := { d with fp := keyFrac d.fp }

theorem keyDec_WF (d : PlainDec) (hw : d.WF) : (keyDec d).WF := by
  refine ⟨hw.1, hw.2.1, ?_⟩
  intro c hc
  simp only [keyDec, keyFrac] at hc
  split at hc
  · simp at hc; subst hc; decide
  · exact hw.2.2 c (NF.stripZerosR_subset _ c hc)

theorem PlainDec.chars_lit (d : PlainDec) : d.chars = litChars d.sign d.ip d.fp true [] := by
  cases hs : d.sign <;> simp [PlainDec.chars, litChars, optC, hs]

theorem PlainDec.litOK (d : PlainDec) (hw : d.WF) : LitOK d.sign d.ip d.fp true [] :=
  ⟨hw.1, hw.2.1, hw.2.2, Or.inr rfl, nofun, .nil, fun _ => .nil⟩

/-- **the key of a plain decimal**: sign and integer digits as written, the fraction without its trailing
zeros (a lone 0 if nothing is left) -/
theorem normalizeFloat_plain (d : PlainDec) (hw : d.WF) : normalizeFloat d.chars = (keyDec d).chars := by
  have hk := keyDec_WF d hw
  have hne : keyFrac d.fp ≠ [] := by
    unfold keyFrac
    split
    · exact List.cons_ne_nil _ _
    · assumption
  -- pass 1 strips the zeros, whether or not there are any
  have h1 : nfStripZeros d.chars = litChars d.sign d.ip (stripZerosR d.fp) true [] := by
    rw [d.chars_lit, nfStripZeros_lit (d.litOK hw)]
    by_cases hl : d.fp.getLast? = some '0'
    · simp [hl]
    · simp [hl, NF.stripZerosR_noop d.fp hl]
  -- pass 2 completes a bare point
  have h2 : nfPointZero (litChars d.sign d.ip (stripZerosR d.fp) true []) = (keyDec d).chars := by
    rw [(keyDec d).chars_lit]
    simp only [keyDec, keyFrac]
    by_cases he : stripZerosR d.fp = []
    · simp [he, litChars, nfPointZero]
    · have := NF.nfPointZero_digits (optC d.sign ++ d.ip ++ ['.']) _ (fun c hc => hw.2.2 c (NF.stripZerosR_subset _ c hc)) he
      simpa [litChars, he] using this
  unfold normalizeFloat
  rw [h1, h2, (keyDec d).chars_lit, nfInsertE_lit ((keyDec d).litOK hk) (Or.inr hne)]
  exact nfMarkers_lit ((keyDec d).litOK hk)

/-- **Trailing zeros of the fractional part are immaterial**: `1.50`, `1.500`, … are normalised like
`1.5`, and `1.`, `1.0`, `1.00` alike (for any sign, any digits). -/
theorem trailing_zeros_immaterial (d : PlainDec) (hw : d.WF) (k : Nat) :
    normalizeFloat ({ d with fp := d.fp ++ List.replicate k '0' } : PlainDec).chars = normalizeFloat d.chars := by
  have hw' : ({ d with fp := d.fp ++ List.replicate k '0' } : PlainDec).WF := by
    refine ⟨hw.1, hw.2.1, ?_⟩
    intro c hc
    simp only [List.mem_append, List.mem_replicate] at hc
    rcases hc with hc | ⟨_, rfl⟩
    · exact hw.2.2 c hc
    · decide
  rw [normalizeFloat_plain _ hw', normalizeFloat_plain d hw]
  simp only [keyDec, keyFrac, NF.stripZerosR_append_zeros]

/-- every exponent marker is written `e` in the normal form -/
theorem markers_normalised (s : List Char) : ∀ c ∈ nfMarkers s, c ≠ 'E' ∧ c ≠ 'd' ∧ c ≠ 'D' := by
  intro c hc
  simp only [nfMarkers, List.mem_map] at hc
  obtain ⟨a, _, rfl⟩ := hc
  by_cases h : (a == 'E' || a == 'd' || a == 'D') = true
  · simp [h]
  · simp only [h]
    simp only [Bool.or_eq_true, beq_iff_eq, not_or] at h
    exact ⟨h.1.1, h.1.2, h.2⟩

theorem PlainDec.chars_injective (d1 d2 : PlainDec) (h1 : d1.WF) (h2 : d2.WF) (h : d1.chars = d2.chars) :
    d1.sign = d2.sign ∧ d1.ip = d2.ip ∧ d1.fp = d2.fp := by
  have s1 := parts_lit (d1.litOK h1)
  rw [← d1.chars_lit, h, d2.chars_lit, parts_lit (d2.litOK h2)] at s1
  injection s1 with hs hi hf
  refine ⟨?_, hi.symm, hf.symm⟩
  cases e1 : d1.sign <;> cases e2 : d2.sign <;> simp [optC, e1, e2] at hs ⊢
  exact hs.symm

/-- numerator and number of fraction digits: the literal denotes `num / 10^den` -/
def decValue (d : PlainDec) : Int × Nat :=
  ((if d.sign = some '-' then -(digitsNat (d.ip ++ d.fp) : Int) else (digitsNat (d.ip ++ d.fp) : Int)), d.fp.length)

/-- `a.1 / 10^a.2 = b.1 / 10^b.2` -/
def sameValue (a b : Int × Nat) : Prop := a.1 * (10:Int) ^ b.2 = b.1 * (10:Int) ^ a.2

theorem sameValue_trans {a b c : Int × Nat} (h1 : sameValue a b) (h2 : sameValue b c) : sameValue a c := by
  unfold sameValue at *
  -- multiply by 10 ^ b.2 and pass through b
  have hpos : ((10:Int) ^ b.2) ≠ 0 := Int.ne_of_gt (Int.pow_pos (by decide))
  apply Int.eq_of_mul_eq_mul_right hpos
  calc a.1 * 10 ^ c.2 * 10 ^ b.2 = (a.1 * 10 ^ b.2) * 10 ^ c.2 := by ring
    _ = (b.1 * 10 ^ c.2) * 10 ^ a.2 := by rw [h1]; ring
    _ = c.1 * 10 ^ a.2 * 10 ^ b.2 := by rw [h2]; ring

theorem decValue_zeros (sg : Option Char) (ip f : List Char) (k : Nat) :
    sameValue (decValue ⟨sg, ip, f ++ List.replicate k '0'⟩) (decValue ⟨sg, ip, f⟩) := by
  have hnum : digitsNat (ip ++ (f ++ List.replicate k '0')) = digitsNat (ip ++ f) * 10 ^ k := by
    rw [← List.append_assoc, NF.digitsNat_append, NF.digitsNat_zeros]
    simp
  unfold sameValue decValue
  simp only [hnum, List.length_append, List.length_replicate]
  split
  · push_cast; ring
  · push_cast; ring

/-- the key denotes the same number as the literal -/
theorem key_keeps_value (d : PlainDec) : sameValue (decValue d) (decValue (keyDec d)) := by
  obtain ⟨k, hk⟩ := NF.stripZerosR_decomp d.fp
  have h1 := decValue_zeros d.sign d.ip (stripZerosR d.fp) k
  rw [← hk] at h1
  unfold keyDec keyFrac
  split
  · rename_i he
    -- nothing is left of the fraction: the key writes a lone 0, that is, one zero after nothing
    rw [he] at h1
    exact sameValue_trans h1 (Eq.symm (decValue_zeros d.sign d.ip [] 1))
  · exact h1

/-- **cells whose densities get the same key have numerically equal densities** (plain decimals of any length):
so numerically different densities never share a composition -/
theorem same_key_same_value (d1 d2 : PlainDec) (h1 : d1.WF) (h2 : d2.WF)
    (h : normalizeFloat d1.chars = normalizeFloat d2.chars) : sameValue (decValue d1) (decValue d2) := by
  rw [normalizeFloat_plain d1 h1, normalizeFloat_plain d2 h2] at h
  obtain ⟨hs, hi, hf⟩ := PlainDec.chars_injective _ _ (keyDec_WF d1 h1) (keyDec_WF d2 h2) h
  have hk : decValue (keyDec d1) = decValue (keyDec d2) := by
    unfold decValue; rw [hs, hi, hf]
  exact sameValue_trans (key_keeps_value d1) (hk ▸ Eq.symm (key_keeps_value d2))

example : normalizeFloat "-1.00".toList = "-1.0".toList := by simp only [String.reduceToList]; decide
example : normalizeFloat "-2.7e0".toList = "-2.7e0".toList := by simp only [String.reduceToList]; decide
example : normalizeFloat "6.40875-2".toList = "6.40875e-2".toList := by simp only [String.reduceToList]; decide
example : normalizeFloat "1.23000".toList = "1.23".toList := by simp only [String.reduceToList]; decide
example : normalizeFloat "-5D4".toList = "-5e4".toList := by simp only [String.reduceToList]; decide

/-! ### literals with an exponent part -/

/-- a literal with an exponent part: mantissa sign, integer digits, optional point + fraction digits, exponent marker
(`e E d D`, or none before a signed exponent), exponent sign, exponent digits -/
structure ExpLit where
  sign : Option Char
  ip : List Char
  fp : List Char
  hasPoint : Bool
  marker : Option Char
  esign : Option Char
  ed : List Char

def ExpLit.WF (l : ExpLit) : Prop :=
  (∀ c, l.sign = some c → isSign c = true) ∧ (∀ c, l.esign = some c → isSign c = true) ∧
  (∀ c ∈ l.ip, isDig c = true) ∧ (∀ c ∈ l.fp, isDig c = true) ∧ (∀ c ∈ l.ed, isDig c = true) ∧ l.ed ≠ [] ∧
  (l.ip ≠ [] ∨ l.fp ≠ []) ∧ (l.hasPoint = false → l.fp = []) ∧ (∀ c, l.marker = some c → isMarker c = true) ∧
  (l.marker = none → l.esign ≠ none)

def ExpLit.mant (l : ExpLit) : List Char := l.ip ++ (if l.hasPoint then '.' :: l.fp else [])
def ExpLit.tail (l : ExpLit) : List Char := optC l.marker ++ optC l.esign ++ l.ed
def ExpLit.chars (l : ExpLit) : List Char := optC l.sign ++ l.mant ++ l.tail

theorem ExpLit.tail_cases (l : ExpLit) (hw : l.WF) :
    (∃ m, l.marker = some m ∧ isMarker m = true ∧ l.tail = m :: (optC l.esign ++ l.ed)) ∨
    (∃ s, l.marker = none ∧ l.esign = some s ∧ isSign s = true ∧ l.tail = s :: l.ed) := by
  obtain ⟨_, hes, _, _, _, _, _, _, hm, hmn⟩ := hw
  unfold ExpLit.tail
  cases hmk : l.marker with
  | some m => exact Or.inl ⟨m, rfl, hm m hmk, rfl⟩
  | none =>
    cases hsg : l.esign with
    | none => exact absurd hsg (hmn hmk)
    | some s => exact Or.inr ⟨s, rfl, rfl, hes s hsg, rfl⟩

theorem ExpLit.tail_head (l : ExpLit) (hw : l.WF) : ∃ c r, l.tail = c :: r ∧ isDig c = false ∧ (c == '.') = false := by
  rcases l.tail_cases hw with ⟨m, -, hm, ht⟩ | ⟨s, -, -, hs, ht⟩
  · exact ⟨m, _, ht, (marker_props m hm).1, (marker_props m hm).2.2⟩
  · exact ⟨s, _, ht, (sign_props s hs).1, (sign_props s hs).2.1⟩

theorem ExpLit.chars_lit (l : ExpLit) : l.chars = litChars l.sign l.ip l.fp l.hasPoint l.tail := by
  simp [ExpLit.chars, ExpLit.mant, litChars]

theorem ExpLit.litOK (l : ExpLit) (hw : l.WF) : LitOK l.sign l.ip l.fp l.hasPoint l.tail := by
  obtain ⟨c, r, htl, hcd, hcp⟩ := l.tail_head hw
  obtain ⟨hs, _, hi, hf, _, _, hne, hp, _, _⟩ := hw
  refine ⟨hs, hi, hf, ?_, hp, htl ▸ .cons hcd, fun _ => htl ▸ .cons hcp⟩
  rcases hne with h | h
  · exact Or.inl h
  · cases hpt : l.hasPoint with
    | true => exact Or.inr rfl
    | false => exact absurd (hp hpt) h

/-- the literal with the marker `e` written out -/
def ExpLit.withE (l : ExpLit) : ExpLit := { l with marker := some 'e' }

theorem nfInsertE_exp (l : ExpLit) (hw : l.WF) :
    nfInsertE l.chars = (match l.marker with | some _ => l.chars | none => l.withE.chars) := by
  have ⟨_, _, _, _, hed, hne, hmant, _⟩ := hw
  rw [l.chars_lit, nfInsertE_lit (l.litOK hw) hmant]
  rcases l.tail_cases hw with ⟨m, hmk, hm, ht⟩ | ⟨s, hmk, hsg, hs, ht⟩
  · simp [ht, hmk, (marker_props m hm).2.1]
  · simp [hmk, hs, hne, List.all_eq_true.mpr hed, ExpLit.chars_lit, ExpLit.withE, ExpLit.tail, hsg, optC]

theorem ExpLit.marker_WF (l : ExpLit) (hw : l.WF) (m : Option Char) (hm : ∀ c, m = some c → isMarker c = true)
    (hmn : m = none → l.esign ≠ none) : ({ l with marker := m } : ExpLit).WF := by
  obtain ⟨hs, hes, hi, hf, hed, hne, hmant, hp, _, _⟩ := hw
  exact ⟨hs, hes, hi, hf, hed, hne, hmant, hp, hm, hmn⟩

theorem ExpLit.withE_WF (l : ExpLit) (hw : l.WF) : l.withE.WF :=
  l.marker_WF hw _ (fun c hc => by cases hc; decide) (fun h => by cases h)

theorem nfMarkers_exp (l : ExpLit) (hw : l.WF) (hmk : l.marker ≠ none) : nfMarkers l.chars = l.withE.chars := by
  obtain ⟨m, hm'⟩ := Option.ne_none_iff_exists'.mp hmk
  have ⟨_, hsign, _, _, hdig, _, _, _, hm, _⟩ := hw
  have hes : ∀ c ∈ optC l.esign, isMarker c = false := optC_forall.mpr fun x hx => (sign_props x (hsign x hx)).2.2
  have hed : ∀ c ∈ l.ed, isMarker c = false := fun c hc => (dig_props c (hdig c hc)).2
  rw [l.chars_lit, nfMarkers_lit (l.litOK hw), l.withE.chars_lit]
  simp only [ExpLit.tail, ExpLit.withE, hm', NF.nfMarkers_append, nfMarkers_keep _ hes, nfMarkers_keep _ hed]
  have hmm := hm m hm'
  simp only [isMarker, Bool.or_eq_true, beq_iff_eq] at hmm
  rcases hmm with ((rfl | rfl) | rfl) | rfl <;> rfl

/-- **`normalize_float` on a literal with an exponent**: the marker (`e`, `E`, `d`, `D` or none before a signed
exponent) becomes `e`; sign, digits, point, exponent sign and exponent digits are kept as written -/
theorem normalizeFloat_exp (l : ExpLit) (hw : l.WF) : normalizeFloat l.chars = l.withE.chars := by
  -- pass 1 finds a tail after the mantissa, pass 2 the exponent digits at the end: both leave the literal alone
  have h1 : nfStripZeros l.chars = l.chars := by
    obtain ⟨c, r, htl, -⟩ := l.tail_head hw
    rw [l.chars_lit, nfStripZeros_lit (l.litOK hw), htl]
    simp
  have h2 : nfPointZero l.chars = l.chars := by
    have ⟨_, _, _, _, hed, hne, _⟩ := hw
    unfold ExpLit.chars ExpLit.tail
    rw [← List.append_assoc, ← List.append_assoc]
    exact NF.nfPointZero_digits _ _ hed hne
  unfold normalizeFloat
  rw [h1, h2, nfInsertE_exp l hw]
  cases hmk : l.marker with
  | some m => exact nfMarkers_exp l hw (by rw [hmk]; simp)
  | none =>
    have := nfMarkers_exp l.withE (l.withE_WF hw) (by simp [ExpLit.withE])
    simpa [ExpLit.withE] using this

/-- what the literal denotes (the reading of `parseRealLit`, the spec of Fortran real literals) -/
def ExpLit.lit (l : ExpLit) : RealLit :=
  { neg := optC l.sign == ['-'], ip := l.ip, fp := l.fp, hasPoint := l.hasPoint,
    exp := some (optC l.esign == ['-'], l.ed), marker := l.marker }

theorem parse_exp (l : ExpLit) (hw : l.WF) : parseRealLit l.chars = some l.lit := by
  have ⟨_, hes, _, _, hed, hne, hmant, _⟩ := hw
  rw [l.chars_lit, NF.parseRealLit_eq, parts_lit (l.litOK hw)]
  simp only [not_both_empty hmant, Bool.false_eq_true, if_false]
  have hemp : l.ed.isEmpty = false := by simp [hne]
  have hall : l.ed.all isDig = true := List.all_eq_true.mpr hed
  rcases l.tail_cases hw with ⟨m, hmk, hm, ht⟩ | ⟨s, hmk, hsg, hs, ht⟩
  · -- the exponent digits do not start with a sign
    have hsplit : splitSign (optC l.esign ++ l.ed) = (optC l.esign, l.ed) :=
      splitSign_optC _ _ hes (fun c hc => (dig_props c (hed c (List.mem_of_mem_head? hc))).1)
    have hmm : (m == 'e' || m == 'E' || m == 'd' || m == 'D') = true := hm
    rw [ht]
    simp [hmm, hsplit, hemp, hall, ExpLit.lit, hmk]
  · have hc : (s == 'e' || s == 'E' || s == 'd' || s == 'D') = false := (sign_props s hs).2.2
    rw [ht]
    simp [hc, splitSign, hs, hemp, hall, ExpLit.lit, hmk, hsg, optC]

/-- **the key of a literal with an exponent denotes the same number**: both spellings are read (by the spec reader
`parseRealLit`) to the same mantissa, the same power of ten -/
theorem exp_key_keeps_value (l : ExpLit) (hw : l.WF) :
    ∃ a b, parseRealLit l.chars = some a ∧ parseRealLit (normalizeFloat l.chars) = some b ∧ a.value = b.value := by
  refine ⟨l.lit, l.withE.lit, parse_exp l hw, ?_, rfl⟩
  rw [normalizeFloat_exp l hw]
  exact parse_exp l.withE (l.withE_WF hw)

/-- all marker spellings of one exponent literal share one key -/
theorem exp_markers_share_key (l : ExpLit) (hw : l.WF) (m : Option Char) (hm : ∀ c, m = some c → isMarker c = true)
    (hmn : m = none → l.esign ≠ none) :
    normalizeFloat ({ l with marker := m } : ExpLit).chars = normalizeFloat l.chars := by
  rw [normalizeFloat_exp _ (l.marker_WF hw m hm hmn), normalizeFloat_exp l hw]
  rfl

/-- non-vacuity: `-1.5d+2` -/
example : (⟨some '-', ['1'], ['5'], true, some 'd', some '+', ['2']⟩ : ExpLit).WF := by
  refine ⟨?_, ?_, ?_, ?_, ?_, ?_, ?_, ?_, ?_, ?_⟩ <;> simp [isSign, isDig, isMarker, Char.isDigit]
example : normalizeFloat "-1.5d+2".toList = "-1.5e+2".toList := by simp only [String.reduceToList]; decide

/-! ### GEOMCOMP: which composition a volume is attached to (`constructGeomCompT4`, model `T4V.Model.GeomComp`)

`cells k` = (material number, density as normalised by `normalize_float`) of MCNP cell `k`; the name of a
composition is `m ++ "_" ++ density`, or `m` alone for a void cell.  A volume's *owner* is the first component of the
first pair of its provenance list — the cell at the bottom of the FILL chain (C05 `provenance`), the filler and not
the container — or the volume's own number when it has no provenance. -/

/-- **the GEOMCOMP block, name by name**: under a name are filed exactly the non-fictive volumes whose owner has that
material and density, in the order of the volume dictionary -/
theorem geomcomp_attachment (cells : Nat → Option GCell) (vols : List GVol) (gs : List (String × List Nat))
    (h : geomComp cells vols = some gs) (name : String) :
    filedUnder gs name = (vols.filter fun v => fileName cells v == some name).map (·.id) :=
  ((geomCompFrom_spec cells vols [] gs h).2 name).trans (List.nil_append _)

theorem mem_filedUnder {cells : Nat → Option GCell} {vols : List GVol} {gs : List (String × List Nat)}
    (h : geomComp cells vols = some gs) {name : String} {k : Nat} :
    k ∈ filedUnder gs name ↔ ∃ v ∈ vols, v.id = k ∧ v.fictive = false ∧ (cells v.owner).map compName = some name := by
  simp only [geomcomp_attachment cells vols gs h, List.mem_map, List.mem_filter, beq_iff_eq, fileName_eq_some]
  exact ⟨fun ⟨v, ⟨hv, hf⟩, hk⟩ => ⟨v, hv, hk, hf⟩, fun ⟨v, hv, hk, hf⟩ => ⟨v, ⟨hv, hf⟩, hk⟩⟩

/-- every non-fictive volume is attached to the composition of its owner -/
theorem attached_to_owner (cells : Nat → Option GCell) (vols : List GVol) (gs : List (String × List Nat))
    (h : geomComp cells vols = some gs) (v : GVol) (hv : v ∈ vols) (hnf : v.fictive = false) :
    ∃ c, cells v.owner = some c ∧ v.id ∈ filedUnder gs (compName c) := by
  obtain ⟨c, hc⟩ := (geomCompFrom_spec cells vols [] gs h).1 v hv hnf
  exact ⟨c, hc, (mem_filedUnder h).mpr ⟨v, hv, rfl, hnf, congrArg (Option.map compName) hc⟩⟩

/-- nothing else is attached: a number filed under a name is a non-fictive volume whose owner has that name; so
fictive (virtual) volumes are attached to nothing -/
theorem attached_only_to_owner (cells : Nat → Option GCell) (vols : List GVol) (gs : List (String × List Nat))
    (h : geomComp cells vols = some gs) (name : String) (k : Nat) (hk : k ∈ filedUnder gs name) :
    ∃ v ∈ vols, v.id = k ∧ v.fictive = false ∧ (cells v.owner).map compName = some name :=
  (mem_filedUnder h).mp hk

/-- one composition per volume: with distinct volume numbers, a volume is filed under one name only, once -/
theorem one_composition_per_volume (cells : Nat → Option GCell) (vols : List GVol) (gs : List (String × List Nat))
    (h : geomComp cells vols = some gs) (hnd : (vols.map (·.id)).Nodup) (n1 n2 : String) (k : Nat)
    (h1 : k ∈ filedUnder gs n1) (h2 : k ∈ filedUnder gs n2) : n1 = n2 ∧ (filedUnder gs n1).count k = 1 := by
  obtain ⟨v1, hv1, e1, -, hn1⟩ := (mem_filedUnder h).mp h1
  obtain ⟨v2, hv2, e2, -, hn2⟩ := (mem_filedUnder h).mp h2
  cases List.inj_on_of_nodup_map hnd hv1 hv2 (e1.trans e2.symm)
  refine ⟨Option.some.inj (hn1.symm.trans hn2), List.count_eq_one_of_mem ?_ h1⟩
  rw [geomcomp_attachment cells vols gs h]
  exact hnd.sublist (List.filter_sublist.map _)

/-- **cells that share a material but differ in (normalised) density get different compositions, void cells the bare
material name**: the name determines material and density (material numbers contain no underscore) -/
theorem composition_name_determines_cell (c1 c2 : GCell) (h1 : '_' ∉ c1.mat.toList) (h2 : '_' ∉ c2.mat.toList)
    (h : compName c1 = compName c2) : c1 = c2 := by
  obtain ⟨m1, r1⟩ := c1
  obtain ⟨m2, r2⟩ := c2
  have e1 := (compName_span _ h1).1.symm.trans ((congrArg (·.toList.takeWhile (· != '_')) h).trans (compName_span _ h2).1)
  have e2 := (compName_span _ h1).2.symm.trans ((congrArg (·.toList.dropWhile (· != '_')) h).trans (compName_span _ h2).2)
  cases String.toList_inj.mp e1
  cases r1 with
  | none =>
    cases r2 with
    | none => rfl
    | some d2 => cases e2
  | some d1 =>
    cases r2 with
    | none => cases e2
    | some d2 => cases String.toList_inj.mp (List.cons.inj e2).2; rfl

/-- the material and density of a volume made by `pot_fill` are those of the cell at the bottom of the chain (the
filler), whatever the containers carry: the leaf's `base` is an unfilled cell of the deck with that material and
density -/
theorem leaf_material_is_filler (cells : List FCell) (fuel : Nat) (c : FCell) (leaves : List FLeaf)
    (h : fillCells cells fuel c = some leaves) (l : FLeaf) (hl : l ∈ leaves) :
    ∃ b ∈ c :: cells, b.id = l.base ∧ b.fill = none ∧ l.mat = b.mat ∧ l.rho = b.rho :=
  (C05.provenance cells fuel c leaves h l hl).2.1

/-! ### the name GEOMCOMP files a volume under is a composition declared in COMPOSITION -/

theorem keyFrac_idem (fp : List Char) : keyFrac (keyFrac fp) = keyFrac fp := by
  unfold keyFrac
  by_cases h : stripZerosR fp = []
  · simp only [h, if_true]
    decide
  · simp only [h, if_false]
    have : stripZerosR (stripZerosR fp) = stripZerosR fp := List.rdropWhile_idempotent _ fp
    simp [this, h]

/-- `normalize_float` leaves its own result alone, on plain decimals -/
theorem normalizeFloat_idem_plain (d : PlainDec) (hw : d.WF) :
    normalizeFloat (normalizeFloat d.chars) = normalizeFloat d.chars := by
  rw [normalizeFloat_plain d hw, normalizeFloat_plain (keyDec d) (keyDec_WF d hw)]
  simp [keyDec, keyFrac_idem]

/-- `normalize_float` leaves its own result alone, on literals with an exponent -/
theorem normalizeFloat_idem_exp (l : ExpLit) (hw : l.WF) :
    normalizeFloat (normalizeFloat l.chars) = normalizeFloat l.chars := by
  rw [normalizeFloat_exp l hw, normalizeFloat_exp l.withE (l.withE_WF hw)]
  rfl

/-- `normalize_float` does not touch an integer (sign? digits) at all -/
theorem normalizeFloat_int (sg : Option Char) (ds : List Char) (hsg : ∀ c, sg = some c → isSign c = true)
    (hds : ∀ c ∈ ds, isDig c = true) (hne : ds ≠ []) : normalizeFloat (optC sg ++ ds) = optC sg ++ ds := by
  have h : LitOK sg ds [] false [] := ⟨hsg, hds, List.forall_mem_nil _, Or.inl hne, fun _ => rfl, .nil, fun _ => .nil⟩
  have e : optC sg ++ ds = litChars sg ds [] false [] := by simp [litChars]
  have h2 := NF.nfPointZero_digits (optC sg) ds hds hne
  rw [e] at h2 ⊢
  have h1 : nfStripZeros (litChars sg ds [] false []) = litChars sg ds [] false [] := nfStripZeros_lit h
  unfold normalizeFloat
  rw [h1, h2, nfInsertE_lit h (Or.inl hne)]
  exact nfMarkers_lit h

/-- a density literal as the cell parser hands it on: `normalize_float` of a plain decimal or of a literal with an
exponent, or an integer -/
inductive Normalised : List Char → Prop
  | plain (d : PlainDec) (hw : d.WF) : Normalised (normalizeFloat d.chars)
  | exp (l : ExpLit) (hw : l.WF) : Normalised (normalizeFloat l.chars)
  | int (sg : Option Char) (ds : List Char) (hsg : ∀ c, sg = some c → isSign c = true)
      (hds : ∀ c ∈ ds, isDig c = true) (hne : ds ≠ []) : Normalised (optC sg ++ ds)

theorem normalised_fixed (x : List Char) (h : Normalised x) : normalizeFloat x = x := by
  cases h with
  | plain d hw => exact normalizeFloat_idem_plain d hw
  | exp l hw => exact normalizeFloat_idem_exp l hw
  | int sg ds hsg hds hne => exact normalizeFloat_int sg ds hsg hds hne

open T4V.CM in
/-- **the name GEOMCOMP uses is declared in COMPOSITION**: GEOMCOMP files the volumes of a cell under
`m<material>_<density>`, the density as the cell parser normalised it; for every live cell that uses a material with a
card, the COMPOSITION block built from the same cells has a composition of exactly that name (`normalize_float` is
applied once more there, and leaves a normalised literal alone) -/
theorem geomcomp_name_is_declared (key : Nat) (ab : Abund) (cells : List CCell) (cs : List Comp)
    (h : compsOf key ab cells [] = .ok cs) (cell : CCell) (hc : cell ∈ cells) (hl : cell.live = true)
    (hm : cell.mat = key) (hn : Normalised cell.density) :
    ∃ c ∈ cs, c.name ++ "_" ++ String.ofList c.density = "m" ++ toString key ++ "_" ++ String.ofList cell.density := by
  obtain ⟨c, hcm, hname, hdens⟩ := C10.every_used_density_has_a_composition key ab cells [] cs h cell hc hl hm (by simp)
  exact ⟨c, hcm, by rw [hname, hdens, normalised_fixed _ hn]⟩

example : geomComp (fun k => if k == 5 then some ⟨"1", some "-2.7"⟩ else if k == 7 then some ⟨"0", none⟩ else none)
      [⟨20, false, [(5, 9)]⟩, ⟨21, true, []⟩, ⟨7, false, []⟩, ⟨22, false, [(5, 8)]⟩]
    = some [("1_-2.7", [20, 22]), ("0", [7])] := by decide

end T4V.C09

