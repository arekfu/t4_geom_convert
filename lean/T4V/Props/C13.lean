import T4V.Proofs.Inline
import T4V.Proofs.ConvertAll
import T4V.Proofs.Post
/-!
# Property C13 — de-duplication and inlining options never change the geometry
-/
namespace T4V.C13

/-- **De-duplication merges two surface numbers only if they describe the same surface**: `a ↦ b` in
the renumbering implies that cards `a` and `b` have the same definition (type, parameters, transform),
and `b` survives. -/
theorem dedup_merges_equal_definitions (surfs : List (Nat × String)) (a b : Nat)
    (h : (a, b) ∈ (removeDuplicates surfs).2) :
    ∃ k, (a, k) ∈ surfs ∧ (b, k) ∈ surfs ∧ b ∈ (removeDuplicates surfs).1 :=
  removeDuplicates_sound surfs a b h

/-- every surface of the table is renumbered to a representative (no reference is left dangling by the
renumbering of the volumes) -/
theorem dedup_every_surface_has_representative (surfs : List (Nat × String)) (a : Nat) (k : String)
    (h : (a, k) ∈ surfs) : ∃ b, (a, b) ∈ (removeDuplicates surfs).2 :=
  (removeDuplicates_inv surfs).cover a k (List.mem_mergeSort.mpr h)

/-- after de-duplication **no two written surfaces have the same definition** -/
theorem dedup_survivors_pairwise_different (surfs : List (Nat × String)) (hnd : (surfs.map (·.1)).Nodup)
    (b1 b2 : Nat) (k : String) (h1 : b1 ∈ (removeDuplicates surfs).1) (h2 : b2 ∈ (removeDuplicates surfs).1)
    (d1 : (b1, k) ∈ surfs) (d2 : (b2, k) ∈ surfs) : b1 = b2 := by
  have inv := removeDuplicates_inv surfs
  obtain ⟨k1, s1⟩ := inv.keptSeen b1 h1
  obtain ⟨k2, s2⟩ := inv.keptSeen b2 h2
  -- distinct numbers: a number has one definition
  have uniq : ∀ (a : Nat) (x y : String), (a, x) ∈ surfs → (a, y) ∈ surfs → x = y := fun a x y hx hy =>
    (Prod.ext_iff.mp (eq_of_nodup_map hnd hx hy rfl)).2
  rw [uniq b1 k1 k (List.mem_mergeSort.mp (inv.seen k1 b1 s1).1) d1] at s1
  rw [uniq b2 k2 k (List.mem_mergeSort.mp (inv.seen k2 b2 s2).1) d2] at s2
  -- one entry per definition in the table of definitions seen
  exact (Prod.ext_iff.mp (eq_of_nodup_map inv.keysNodup s1 s2 rfl)).2

/-- of a group of identical surfaces the lowest number survives -/
theorem dedup_lowest_number_survives (surfs : List (Nat × String)) (a b : Nat)
    (h : (a, b) ∈ (removeDuplicates surfs).2) : b ≤ a := by
  refine (removeDuplicates_inv surfs).low ?_ a b h
  have := List.pairwise_mergeSort (le := fun (a b : Nat × String) => decide (a.1 ≤ b.1))
    (fun a b c hab hbc => by simp only [decide_eq_true_eq] at *; omega)
    (fun a b => by simp only [Bool.or_eq_true, decide_eq_true_eq]; omega) surfs
  exact this.imp (fun h => by simpa using h)

/-- renumbering the surfaces of all volumes keeps the denotation of every volume, for every point
(sense assignment) at which merged surfaces have the same sense — which (by the theorem above) is
every point, since merged surfaces have the same definition -/
theorem renumbering_preserves (σ : TSense) (ren : List (Nat × Nat)) (hσ : ∀ s, σ (renumOf ren s) = σ s)
    (vols : List (Nat × Vol)) (f k : Nat) : den (renumberVols ren vols) σ f k = den vols σ f k :=
  den_renumber σ ren hσ vols f k

/-- **Inlining**: replacing any selection `toInline` of cell references by the referenced trees
(recursively) keeps the Boolean function of the tree.  The inline score (`--max-inline-score`,
`--always-inline-*`) only decides *which* references are selected; the statement holds for every
selection. -/
theorem inlining_preserves (cells : List (Nat × Geom)) (toInline : List Nat) (σ : SurfVal) (cv : Nat → Bool)
    (hfix : CVFix cells σ cv) (fuel : Nat) (g g' : Geom) (h : inlineWorker cells toInline fuel g = some g') :
    g'.eval σ cv = g.eval σ cv :=
  inlineWorker_eval cells toInline σ cv hfix fuel g g' h

/-- whatever tree a cell ends up with after inlining, the conversion loop gives it a volume with the
tree's denotation (C01 `loop`), so two option sets that produce trees of equal meaning produce
volumes of equal meaning -/
theorem options_agree (env₁ env₂ : CEnv) (σ : TSense) (cv : Nat → Bool) (h₁ : EnvOK env₁ σ cv)
    (h₂ : EnvOK env₂ σ cv) (fuel₁ fuel₂ n₁ n₂ : Nat) (keys : List Nat) (st₁ st₂ : CState)
    (hnd : keys.Nodup) (hl₁ : ∀ c ∈ keys, c ≤ n₁) (hl₂ : ∀ c ∈ keys, c ≤ n₂)
    (c₁ : convertAll env₁ fuel₁ keys { next := n₁ } = .ok st₁)
    (c₂ : convertAll env₂ fuel₂ keys { next := n₂ } = .ok st₂) (c : Nat) (hc : c ∈ keys) :
    Good σ cv st₁.vols c ∧ Good σ cv st₂.vols c :=
  ⟨convertAll_ok env₁ σ cv h₁ fuel₁ n₁ keys st₁ hnd hl₁ c₁ c hc,
   convertAll_ok env₂ σ cv h₂ fuel₂ n₂ keys st₂ hnd hl₂ c₂ c hc⟩

-- three surfaces, the last two with the same definition: 3 is renumbered to 2
example : ([(1, "B"), (2, "A"), (3, "A")].foldl dedupStep ([], [], [])).2.2 = [(1, 1), (2, 2), (3, 2)] := by decide

end T4V.C13
