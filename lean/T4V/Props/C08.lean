import T4V.Proofs.PostClosed
import T4V.Proofs.CompileClosed
import T4V.Proofs.Optimise
import T4V.Proofs.WriteRead
import T4V.Proofs.Composition
import T4V.Proofs.SurfArity
/-!
# Property C08 — structural validity of the written file (the clauses that are logic of the model)
-/
namespace T4V.C08

/-- after `pot_optimise`, no intersection node lists one surface with both signs among its literals
(so the EQUA part built from it has disjoint PLUS / MINUS lists) -/
theorem optimise_no_both_sides (m : Matching) (σ : TSense) (cv : Nat → Bool) (t t' : FTree)
    (hx : t.expanded = true) (h : potOptimise t = some t') : t'.noBoth = true :=
  ((potOptimise_ok m σ cv t hx).some_ok t' h).2.2.1

/-- **no volume lists one surface on both sides** after `remove_empty_volumes` (which runs after
de-duplication has possibly merged surface numbers), for any volume dictionary; `hu` asks only that the two auxiliary
planes have different numbers -/
theorem no_surface_on_both_sides (u : Nat × Nat) (hu : u.1 ≠ u.2) (vols : List (Nat × Vol)) :
    ∀ p ∈ removeEmpty u vols, p.2.empty = false :=
  removeEmpty_noEmpty u hu vols

/-- … and `remove_unused_volumes` only deletes entries, so the final dictionary inherits it -/
theorem final_no_surface_on_both_sides (u : Nat × Nat) (hu : u.1 ≠ u.2) (vols : List (Nat × Vol)) :
    ∀ p ∈ removeUnused (removeEmpty u vols), p.2.empty = false :=
  fun p hp => removeEmpty_noEmpty u hu vols p (List.mem_filter.mp hp).1

-- `hu` can be met
example : ((8 : Nat), (9 : Nat)).1 ≠ ((8 : Nat), (9 : Nat)).2 := by decide

/-- **closedness after post-processing**: every UNION/INTE operand of the final dictionary is a key of it
(for a dictionary with unique keys, as Python's `dict` is); the loop of `remove_empty_volumes` is shown to
end with an empty queue (every round after the first deletes a volume) -/
theorem closed_after_post (dedup : Bool) (surfs : List (Nat × String)) (u : Nat × Nat) (vols : List (Nat × Vol))
    (hnd : KeysNodup vols)
    (hc : ∀ p ∈ vols, ∀ op ids, p.2.ops = some (op, ids) → ∀ k ∈ ids, hasKey vols k) :
    ∀ p ∈ (postProcess dedup surfs u vols).2, ∀ op ids, p.2.ops = some (op, ids) →
      ∀ k ∈ ids, hasKey (postProcess dedup surfs u vols).2 k :=
  closed_iff.mp (postProcess_closed dedup surfs u vols (closed_iff.mpr hc) hnd)

/-- **no dangling reference in what is written, end to end**: the dictionary produced by the conversion loop (any
deck, any number of cells) and then post-processed has every UNION/INTE operand among its own keys — no hypothesis
on the dictionary is left -/
theorem closed_end_to_end (env : CEnv) (fuel next0 : Nat) (keys : List Nat) (st' : CState)
    (h : convertAll env fuel keys { next := next0 } = .ok st')
    (dedup : Bool) (surfs : List (Nat × String)) (u : Nat × Nat) :
    ∀ p ∈ (postProcess dedup surfs u st'.vols).2, ∀ op ids, p.2.ops = some (op, ids) →
      ∀ k ∈ ids, hasKey (postProcess dedup surfs u st'.vols).2 k := by
  obtain ⟨hcl, hkn⟩ := convertAll_closed_init env fuel next0 keys st' h
  exact closed_iff.mp (postProcess_closed dedup surfs u st'.vols hcl hkn)

/-! ### `VOLU` lines: the reader inverts the writer (`VolumeT4.__str__`, `Spec.T4.readBody`) -/
open T4V.WR in
/-- **every `VOLU` line the writer can produce is read back exactly, without a single complaint**: for all PLUS and
MINUS sets (in any enumeration order), every operator with any operand list and either value of the FICTIVE flag,
the reader applied to the words that follow `EQUA` finds the sorted PLUS and MINUS lists, the operator with its
operands in order, the flag, the closing `ENDV`, and reports no error — so the declared counts equal the number of
ids that follow, every id is a natural number, and nothing follows `ENDV`. -/
theorem volume_line_roundtrip (ctx : String) (P M : List Nat) (ops : Option (OpKind × List Nat)) (fict : Bool)
    (fuel : Nat) (hf : 5 ≤ fuel) :
    readBody ctx fuel ((volWords P M (ops.map fun x => (opName x.1, x.2)) fict ++ ["ENDV"]).tail) {}
      = { pluses := P.mergeSort natLe, minuses := M.mergeSort natLe, op := ops, fictive := fict, ended := true,
          errs := [] } := by
  obtain ⟨f, rfl⟩ : ∃ f, fuel = f + 5 := ⟨fuel - 5, by omega⟩
  rw [volWords_sections, List.tail_cons, readBody_from_plus ctx P M ops fict f {} rfl]
  -- left, field by field: `[] ++ l = l` and `(fict || false) = fict`
  simp

/-- what is read back has the written sets: same members, same multiplicities -/
theorem volume_line_sets (P : List Nat) : (P.mergeSort natLe).Perm P := List.mergeSort_perm P _

/-- the fuel the file reader uses (number of words + 5) is enough -/
theorem reader_fuel_enough (ws : List String) : 5 ≤ ws.length + 5 := by omega

open T4V.WR in
/-- **from the bytes of the line**: the text `VolumeT4.__str__` produces, followed by a blank and `ENDV`, splits at
blanks into the words of the volume and `ENDV`; hence the reader recovers the volume from the text itself (the
`VOLU id` prefix and the `//` comment are cut off by the line reader before) -/
theorem volume_line_text_roundtrip (ctx : String) (P M : List Nat) (ops : Option (OpKind × List Nat)) (fict : Bool)
    (fuel : Nat) (hf : 5 ≤ fuel) :
    readBody ctx fuel (words (volLine P M (ops.map fun x => (opName x.1, x.2)) fict ++ " ENDV")).tail {}
      = { pluses := P.mergeSort natLe, minuses := M.mergeSort natLe, op := ops, fictive := fict, ended := true,
          errs := [] } := by
  rw [words_volLine]
  exact volume_line_roundtrip ctx P M ops fict fuel hf

/-- **a GEOMCOMP line is read back exactly**: name, declared count = number of volumes, the volumes in order, no
complaint — for every composition name and every list of volume numbers -/
theorem geomcomp_line_roundtrip (name : String) (ids : List Nat) :
    gcLine name (toString ids.length) (ids.map toString) = (some (name, ids.length, ids), []) := by
  simp only [gcLine, WR.natItems_ids, WR.toNat_toString]

/-! ### the COMPOSITION block (writer model `Model/Composition.lean`, reader `Spec/T4.lean`) -/
section
open T4V.CM T4V.CMP

/-- **every declared nuclide count equals the number of nuclide lines that follow**: whatever the material cards and
the cells are, the reader — splitting the text of each written line into words — finds after every composition header
exactly as many nuclide lines as the header declares, and none are left over at END_COMPOSITION.  The hypotheses only
say that the tokens of the cards and the density literals contain no white space (they come out of `str.split()`). -/
theorem composition_counts_fit (cards : List (Nat × List (List Char))) (cells : List CCell) (lines : List String)
    (hc : ∀ e ∈ cards, ∀ t ∈ e.2, ∀ c ∈ t, CC.cws c = false) (hd : ∀ c ∈ cells, TokL c.density)
    (h : CM.run cards cells = .ok lines) :
    compCountRun 0 (lines.map words ++ [["END_COMPOSITION"]]) = some 0 := by
  -- `CM.run` read backwards: `parseAll` gave `pss`, `convAll` gave `abs`, `construct` gave `mats`
  unfold CM.run at h
  split at h
  · simp at h
  next pss hpss =>
    split at h
    · simp at h
    next abs habs =>
      split at h
      · simp at h
      next mats hmats =>
        simp only [Except.ok.injEq] at h; subst h
        -- "no white space" goes with them: `hw1` for the pairs, `hw2` for the abundances, `hw3` for the compositions
        have hw1 : ∀ e ∈ pss, ∀ p ∈ e.2, ∀ c ∈ p.2, CC.cws c = false := by
          intro e he p hp c hcm
          obtain ⟨e', he', hm⟩ := parseAll_tokens _ pss hpss e he p hp
          obtain ⟨e'', he'', heq⟩ := cardDict_values cards e' he'
          exact hc e'' he'' p.2 (heq ▸ hm) c hcm
        have hw2 := convAll_wf pss abs hw1 habs
        have hw3 := construct_wf cells hd abs mats hw2 hmats
        rw [words_blockText mats hw3]
        exact count_block mats

/-- a header line of the block: POINT_WISE / DENSITY followed by at least three more words -/
def isCompHeader (ws : List String) : Bool :=
  (ws.head? == some "POINT_WISE" || ws.head? == some "DENSITY") && decide (4 ≤ ws.length)

theorem headers_of_comp (c : Comp) : ((compWordLines c).filter isCompHeader).length = 1 := by
  unfold compWordLines
  have h1 : isCompHeader (headerWords c) = true := by
    unfold headerWords isCompHeader
    by_cases hk : (c.kind == "POINT_WISE") = true
    · simp [hk]
    · by_cases hn : c.nbAtom = true <;> simp [hk, hn]
  -- a nuclide line has two words, a header at least four
  have h2 : ∀ l : List (String × List Char),
      (l.map fun (p : String × List Char) => [p.1, String.ofList p.2]).filter isCompHeader = [] :=
    fun l => List.filter_eq_nil_iff.mpr fun a ha => by
      obtain ⟨p, _, rfl⟩ := List.mem_map.mp ha
      simp [isCompHeader]
  rw [List.filter_cons, if_pos h1, List.length_cons]
  by_cases he : c.isotopes.isEmpty = true
  · rw [if_pos he]; rfl
  · rw [if_neg he]
    rw [h2 c.isotopes]; rfl

theorem headers_of_comps : ∀ cs : List Comp, ((cs.flatMap compWordLines).filter isCompHeader).length = cs.length
  | [] => rfl
  | c :: cs => by
    simp only [List.flatMap_cons, List.filter_append, List.length_append, headers_of_comp, headers_of_comps cs,
      List.length_cons]
    omega

/-- **the COMPOSITION count equals the number of compositions written** (the converted ones and the void
composition `m0`) -/
theorem composition_count_line (mats : List (Nat × List Comp)) :
    ∃ rest, blockWordLines mats = [toString ((rest.filter isCompHeader).length)] :: rest := by
  refine ⟨(mats.flatMap (·.2)).flatMap compWordLines ++ [["POINT_WISE", "300", "m0", "1"], ["HE4", "1E-30"], []], ?_⟩
  unfold blockWordLines
  simp only
  rw [List.filter_append, List.length_append, headers_of_comps]
  rfl

end

/-! ### SURF lines -/
section
variable {α : Type} [Add α] [Sub α] [Mul α] [Div α] [Neg α] [OfNat α 0] [OfNat α 1]
  [LT α] [DecidableLT α] [BEq α] [Transc α]

/-- **every surface written for an elementary surface card has the number of parameters its TRIPOLI-4 keyword expects**
(1 for PLANEX/Y/Z, 4 for PLANE and SPHERE, 3 for CYLX/Y/Z, 7 for CYL and CONE, 4 for CONEX/Y/Z, 10 for QUAD, 6 for
TORUSX/Y/Z) — for every mnemonic, every admissible parameter list and every value, including the auxiliary plane of a
one-sheet cone -/
theorem surface_parameters_fit (e1 e2 : α) (mn : String) (ps : List α) (coll : List (TSurf α × Int))
    (h : convertCard e1 e2 mn ps = some coll) : ∀ t ∈ coll, t.1.ps.length = t.1.kind.arity :=
  SA.arity_convertCard e1 e2 mn ps coll h

/-- … and so has every facet of every macrobody (RPP, BOX, SPH, RCC, RHP/HEX, REC, TRC, ELL, WED, ARB) -/
theorem macrobody_parameters_fit (e1 e2 : α) (mn : String) (ps : List α) (toNat : α → Nat) (coll : List (TSurf α × Int))
    (h : convertMacro e1 e2 mn ps toNat = some coll) : ∀ t ∈ coll, t.1.ps.length = t.1.kind.arity :=
  SA.arity_convertMacro e1 e2 mn ps toNat coll h
end

end T4V.C08
