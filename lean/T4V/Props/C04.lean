import T4V.Proofs.RealOK
import T4V.Proofs.Rot
import T4V.Model.TRCard
import T4V.Proofs.PotTransform
/-!
# Property C04 — coordinate transformations move surfaces by the MCNP rigid motion

Model: `T4V.Model.Transform` (`transformation()`, `transform_point/vector`, `transformation_quad`,
`special_quadric_to_quadric`) composed with the surface model of C02.  Spec: `Motion.toAux` (MCNP: the
auxiliary coordinates of a main-frame point, `B (p − O)`) and `elemSense`.  `Rot b`: rows and columns of
the matrix orthonormal.  All theorems hold for every such matrix, every displacement and every point.

TR cards: `T4V.Model.TRCard` (`normalize_transform`, `normalize_matrix*`, `adjust_matrix`).  Cells under TRCL / FILL:
`T4V.Model.PotTransform`, lemmas in `Proofs/PotTransform`.  `frames_transport`, `quadric_transport` and
`completed_matrix_is_rotation` restate lemmas of `Proofs/Transform` and `Proofs/Rot` under the property's name.
-/
-- most statements need less than the four instances of the `variable` line, which they all carry
set_option linter.unusedSectionVars false
namespace T4V.C04
open T4V.Surf T4V.Tr
variable {α : Type} [Field α] [LinearOrder α] [IsStrictOrderedRing α] [Transc α]

/-- `transform_point` is MCNP's auxiliary → main map and `toAux` inverts it -/
theorem motion_invertible (m : Motion α) (h : Rot m.b) (q p : V3 α) :
    trPoint m q = m.toMain q ∧ m.toAux (m.toMain q) = q ∧ m.toMain (m.toAux p) = p :=
  ⟨trPoint_eq_toMain m q, toAux_toMain m h q, toMain_toAux m h p⟩

/-- quadric coefficients transported by `transformation_quad` (any matrix, any displacement) -/
theorem quadric_transport (a b c d e f g h j k : α) (m : Motion α) (p : V3 α) :
    ∃ q', transformQuad [a, b, c, d, e, f, g, h, j, k] m = some q' ∧
      evalQuadric q' p = evalQuadric [a, b, c, d, e, f, g, h, j, k] (m.toAux p) :=
  let ⟨q', hq, _, he⟩ := quad_transport_all a b c d e f g h j k m
  ⟨q', hq, he p⟩

/-- frames (plane, sphere, cylinder, cone) transported by `transform_frame` -/
theorem frames_transport (m : Motion α) (h : Rot m.b) (s : MSurf α)
    (hk : s.kind = .p ∨ s.kind = .s ∨ s.kind = .c ∨ s.kind = .k) :
    ∃ s', transformSurf m s = some s' ∧ s'.kind = s.kind ∧ s'.compl = s.compl ∧ s'.nappe = s.nappe ∧
      s'.ax.dot s'.ax = s.ax.dot s.ax ∧ ∀ t2 p, frameF s' t2 p = frameF s t2 (m.toAux p) :=
  frame_transport m h s hk

/-- **C04 for surface cards carrying a transformation number**: for every rigid motion (rows and columns
of the matrix orthonormal, any displacement) the converted surface is the image of the untransformed
one: sense at `p` = MCNP's sense of the card at the auxiliary coordinates of `p` -/
theorem transformed_card (ok : TranscOK α) (m : Motion α) (hR : Rot m.b) {mn : String} {ps : List α}
    (h : TrAdmissible mn ps) : TrConverted mn ps m :=
  let ⟨_, hf, hspec⟩ := frame_cards ok h
  TrConverted.of_frame m hR hf hspec

/-- a GQ card carrying a transformation: any matrix, any displacement -/
theorem transformed_gq (m : Motion α) (a b c d e f g h j k : α) : TrConverted "gq" [a, b, c, d, e, f, g, h, j, k] m :=
  TrConverted.of_quad m a b c d e f g h j k rfl (fun _ => rfl) fun _ => rfl

/-- an SQ card carrying a transformation is expanded to GQ coefficients *without* the sign test of the
untransformed path: MCNP's sense is kept for every constant term -/
theorem transformed_sq (m : Motion α) (a b c d e f g x y z : α) : TrConverted "sq" [a, b, c, d, e, f, g, x, y, z] m :=
  TrConverted.of_quad m a b c 0 0 0 (two * d - two * a * x) (two * e - two * b * y) (two * f - two * c * z)
    (a * (x * x) + b * (y * y) + c * (z * z) - two * (d * x + e * y + f * z) + g) rfl (fun _ => rfl) fun q => by
      simp only [evalQuadric, sq, two]
      congr 1
      ring

/-- a one-sheet cone with any axis `u ≠ 0`: the collection is the cone and the apex plane, and a negative reference
selects the points inside the cone on the sheet where `s · (u · (p − apex)) > 0` -/
theorem flipped_cone (pt u : V3 α) (tana at_ s : α) (hu : 0 < u.dot u) (hs : s = 1 ∨ s = -1) (p : V3 α) :
    ∃ coll cone, convertSurf { kind := .k, pt := pt, ax := u, compl := [tana, at_], nappe := some s } = some coll ∧
      coll.length = 2 ∧ coll[0]? = some (cone, 1) ∧
      ∃ v, cone.f p = some v ∧ collNegative coll p = some (decide (v < 0) && decide (0 < s * u.dot (p.sub pt))) := by
  obtain ⟨v, hv⟩ := coneOf_defined pt u (deg180 * at_ / Transc.pi) p
  obtain ⟨pl, hconv, hpl⟩ := cone_sheet_facet
    { kind := .k, pt := pt, ax := u, compl := [tana, at_], nappe := some s } tana at_ s rfl rfl rfl hs hu
  refine ⟨_, _, hconv, rfl, rfl, v, hv, ?_⟩
  rw [collNegative_pair p hv hpl]
  simp only [neg_neg_iff_pos]

/-- **one-sheet cone whose axis is `±z` after a transformation** (axis flipped or not): the apex plane's
side accounts for the direction of the axis: a negative reference selects the points inside the cone on
the sheet where `s · (u · (p − apex)) > 0` -/
theorem flipped_cone_z (pt : V3 α) (uz tana at_ s : α) (huz : uz ≠ 0) (hs : s = 1 ∨ s = -1) (p : V3 α) :
    ∃ coll cone, convertSurf { kind := .k, pt := pt, ax := ⟨0, 0, uz⟩, compl := [tana, at_], nappe := some s } = some coll ∧
      coll.length = 2 ∧ coll[0]? = some (cone, 1) ∧
      ∃ v, cone.f p = some v ∧
        collNegative coll p = some (decide (v < 0) && decide (0 < s * (uz * (p.z - pt.z)))) := by
  simpa only [V3.dot, V3.sub, zero_mul, zero_add, add_zero] using flipped_cone pt ⟨0, 0, uz⟩ tana at_ s
    (by simpa only [V3.dot, zero_mul, zero_add, add_zero] using mul_self_pos.mpr huz) hs p

/-- **one-sheet cone whose axis is `±x` after a transformation** (axis flipped or not): the apex plane's
side accounts for the direction of the axis: a negative reference selects the points inside the cone on
the sheet where `s · (u · (p − apex)) > 0` -/
theorem flipped_cone_x (pt : V3 α) (ux tana at_ s : α) (hux : ux ≠ 0) (hs : s = 1 ∨ s = -1) (p : V3 α) :
    ∃ coll cone, convertSurf { kind := .k, pt := pt, ax := ⟨ux, 0, 0⟩, compl := [tana, at_], nappe := some s } = some coll ∧
      coll.length = 2 ∧ coll[0]? = some (cone, 1) ∧
      ∃ v, cone.f p = some v ∧
        collNegative coll p = some (decide (v < 0) && decide (0 < s * (ux * (p.x - pt.x)))) := by
  simpa only [V3.dot, V3.sub, zero_mul, zero_add, add_zero] using flipped_cone pt ⟨ux, 0, 0⟩ tana at_ s
    (by simpa only [V3.dot, zero_mul, zero_add, add_zero] using mul_self_pos.mpr hux) hs p

/-- **one-sheet cone whose axis is `±y` after a transformation** (axis flipped or not): the apex plane's
side accounts for the direction of the axis: a negative reference selects the points inside the cone on
the sheet where `s · (u · (p − apex)) > 0` -/
theorem flipped_cone_y (pt : V3 α) (uy tana at_ s : α) (huy : uy ≠ 0) (hs : s = 1 ∨ s = -1) (p : V3 α) :
    ∃ coll cone, convertSurf { kind := .k, pt := pt, ax := ⟨0, uy, 0⟩, compl := [tana, at_], nappe := some s } = some coll ∧
      coll.length = 2 ∧ coll[0]? = some (cone, 1) ∧
      ∃ v, cone.f p = some v ∧
        collNegative coll p = some (decide (v < 0) && decide (0 < s * (uy * (p.y - pt.y)))) := by
  simpa only [V3.dot, V3.sub, zero_mul, zero_add, add_zero] using flipped_cone pt ⟨0, uy, 0⟩ tana at_ s
    (by simpa only [V3.dot, zero_mul, zero_add, add_zero] using mul_self_pos.mpr huy) hs p

/-- non-vacuity over ℝ: the permutation x → y → z → x with a displacement -/
example : TrConverted "c/z" [1, 2, 3] (⟨⟨5, -1, 2⟩, ⟨⟨0, 1, 0⟩, ⟨0, 0, 1⟩, ⟨1, 0, 0⟩⟩⟩ : Motion ℝ) :=
  transformed_card transcOK_real _ (by constructor <;> norm_num [V3.dot]) (TrAdmissible.c_z 1 2 3)

/-! ### TR cards: two rows or two columns given, m = −1, displacement only -/

/-- **TR cards with two rows given** (six entries, or nine with three `J`): the missing row is the vector
product of the two given ones in cyclic order; every supplied entry is reproduced -/
theorem two_rows_completed (a b : V3 α) :
    normMatrix (row9 a ++ row9 b) = .ok (row9 a ++ row9 b ++ row9 (a.cross b)) ∧
    normMatrix (row9 a ++ row9 b ++ [none, none, none]) = .ok (row9 a ++ row9 b ++ row9 (a.cross b)) ∧
    normMatrix ([none, none, none] ++ row9 a ++ row9 b) = .ok (row9 (a.cross b) ++ row9 a ++ row9 b) ∧
    normMatrix (row9 b ++ [none, none, none] ++ row9 a) = .ok (row9 b ++ row9 (a.cross b) ++ row9 a) :=
  ⟨rfl, rfl, rfl, rfl⟩

/-- **two columns given** (`J` in the third place of every row): the missing column is the vector product -/
theorem two_columns_completed (a b : V3 α) :
    normMatrix [some a.x, some b.x, none, some a.y, some b.y, none, some a.z, some b.z, none] =
      .ok [some a.x, some b.x, some (a.cross b).x, some a.y, some b.y, some (a.cross b).y,
           some a.z, some b.z, some (a.cross b).z] :=
  rfl

/-- … and the completed matrix is a proper rotation whenever the two given vectors are orthonormal -/
theorem completed_matrix_is_rotation (a b : V3 α) (haa : a.dot a = 1) (hbb : b.dot b = 1) (hab : a.dot b = 0) :
    (Rot ⟨a, b, a.cross b⟩ ∧ det3 ⟨a, b, a.cross b⟩ = 1) ∧
    (Rot ⟨a.cross b, a, b⟩ ∧ det3 ⟨a.cross b, a, b⟩ = 1) ∧
    (Rot ⟨b, a.cross b, a⟩ ∧ det3 ⟨b, a.cross b, a⟩ = 1) :=
  cross_completion a b haa hbb hab

/-- a 13th entry other than 1 (m = −1: the displacement is given in the auxiliary frame) is rejected -/
theorem m_minus_one_rejected (snap : α) (tr : List (Option α)) (m : α) (h12 : tr.length = 12) (hm : m ≠ 1) :
    normTransform snap (tr ++ [some m]) = .error .mMinusOne := by
  have hlen : (tr ++ [some m]).length = 13 := by simp [h12]
  have hbeq : (m == 1) = false := by simpa using hm
  simp [normTransform, hlen, hbeq]

/-- three entries: a pure displacement -/
theorem displacement_only (snap x y z : α) :
    normTransform snap [some x, some y, some z] = .ok [x, y, z, 1, 0, 0, 0, 1, 0, 0, 0, 1] := by
  simp [normTransform, identity9]

/-! ### TR cards: all nine entries given, or one row and one column (five entries, Euler angles) -/

/-- `np.roll(…, shift=1, axis=0)`: cyclic shift of the rows down -/
def rowRoll (m : M3 α) : M3 α := ⟨m.r3, m.r1, m.r2⟩

/-- `np.roll(…, shift=1, axis=1)`: cyclic shift of the columns to the right -/
def colRoll (m : M3 α) : M3 α := ⟨⟨m.r1.z, m.r1.x, m.r1.y⟩, ⟨m.r2.z, m.r2.x, m.r2.y⟩, ⟨m.r3.z, m.r3.x, m.r3.y⟩⟩

/-- `j` column shifts, for `j = 0, 1, 2` -/
def rollCols (m : M3 α) : Nat → M3 α
  | 0 => m
  | 1 => colRoll m
  | _ => colRoll (colRoll m)

/-- `np.roll(np.roll(m, i, axis=0), j, axis=1)` for `i, j = 0, 1, 2` -/
def rollM (m : M3 α) (i j : Nat) : M3 α :=
  match i with
  | 0 => rollCols m j
  | 1 => rowRoll (rollCols m j)
  | _ => rowRoll (rowRoll (rollCols m j))

/-- the fields of `Rot m` permuted; the determinant is the triple product, which is cyclic -/
theorem rowRoll_rot (m : M3 α) (h : Rot m ∧ det3 m = 1) : Rot (rowRoll m) ∧ det3 (rowRoll m) = 1 := by
  obtain ⟨h, hd⟩ := h
  refine ⟨⟨h.r33, h.r11, h.r22, (V3.dot_comm _ _).trans h.r13, (V3.dot_comm _ _).trans h.r23, h.r12,
    (add_rotate _ _ _).trans h.c11, (add_rotate _ _ _).trans h.c22, (add_rotate _ _ _).trans h.c33,
    (add_rotate _ _ _).trans h.c12, (add_rotate _ _ _).trans h.c13, (add_rotate _ _ _).trans h.c23⟩, ?_⟩
  exact (V3.triple_cycle m.r3 m.r1 m.r2).trans hd

/-- `colRoll m` is `(rowRoll mᵀ)ᵀ` -/
theorem colRoll_rot (m : M3 α) (h : Rot m ∧ det3 m = 1) : Rot (colRoll m) ∧ det3 (colRoll m) = 1 :=
  let ⟨hr, hd⟩ := rowRoll_rot m.transpose ⟨h.1.transpose, (det3_transpose m).trans h.2⟩
  ⟨hr.transpose, (det3_transpose (rowRoll m.transpose)).trans hd⟩

/-- a cyclic shift of the rows and of the columns of a proper rotation is a proper rotation -/
theorem roll_rot (m : M3 α) (h : Rot m ∧ det3 m = 1) (i j : Nat) : Rot (rollM m i j) ∧ det3 (rollM m i j) = 1 := by
  have hc : Rot (rollCols m j) ∧ det3 (rollCols m j) = 1 := by
    rcases j with _ | _ | j
    · exact h
    · exact colRoll_rot _ h
    · exact colRoll_rot _ (colRoll_rot _ h)
  rcases i with _ | _ | i
  · exact hc
  · exact rowRoll_rot _ hc
  · exact rowRoll_rot _ (rowRoll_rot _ hc)

/-- **`adjust_matrix` leaves a proper rotation unchanged** (exact arithmetic, no snapping): a full nine-entry
matrix that is a rotation is used as given -/
theorem adjust_keeps_rotation (ok : TranscOK α) (m : M3 α) (hR : Rot m) (hdet : det3 m = 1) :
    adjustMatrix (0:α) m.toList = some m.toList := by
  -- the columns are the rows of the transpose; column 0 × column 1 = column 2 is `row_is_cross` after a row shift
  have hT := hR.transpose
  obtain ⟨hTr, hdr⟩ := rowRoll_rot m.transpose ⟨hT, (det3_transpose m).trans hdet⟩
  have hcross := row_is_cross _ hTr hdr
  have hc0 := hT.r11
  have hc1 := hT.r22
  have hc2 := hT.r33
  have hc01 := hT.r12
  obtain ⟨a, b, c⟩ := m
  simp only [M3.transpose, rowRoll] at hcross hc0 hc1 hc2 hc01
  have hv1 : (V3.smul ((⟨a.x, b.x, c.x⟩ : V3 α).dot ⟨a.x, b.x, c.x⟩) ⟨a.y, b.y, c.y⟩).sub
      (V3.smul ((⟨a.x, b.x, c.x⟩ : V3 α).dot ⟨a.y, b.y, c.y⟩) ⟨a.x, b.x, c.x⟩) = ⟨a.y, b.y, c.y⟩ := by
    rw [hc0, hc01]; simp [V3.smul, V3.sub]
  -- `snap = 0`, so `sn` sets no entry to zero (`hsnap`); `vp · c2 = 1 > 0` (`hc2`) selects `vp`, not `-vp`
  have hsnap : ∀ x : α, ¬ (fabs x < 0) := fun x => not_lt.mpr (fabs_eq_abs x ▸ abs_nonneg x)
  simp only [adjustMatrix, M3.toList, V3.toList, List.cons_append, List.nil_append, rows3, vrow, Option.bind_eq_bind,
    Option.bind_some, renorm_unit ok a hR.r11, renorm_unit ok b hR.r22, renorm_unit ok c hR.r33, hv1,
    renorm_unit ok _ hc1, renorm_unit ok _ hc0, hcross, renorm_unit ok _ hc2, hc2, zero_lt_one, if_true, hsnap,
    if_false, transpose9]

/-- a full TR card (displacement and the nine cosines of a proper rotation) is taken as written -/
theorem full_rotation_kept (ok : TranscOK α) (o : V3 α) (m : M3 α) (hR : Rot m) (hdet : det3 m = 1) :
    normTransform (0:α) ((o.toList ++ m.toList).map some) = .ok (o.toList ++ m.toList) := by
  have hadj := adjust_keeps_rotation ok m hR hdet
  obtain ⟨a, b, c⟩ := m
  simp only [M3.toList, V3.toList, List.cons_append, List.nil_append] at hadj
  simp [normTransform, normMatrix, M3.toList, V3.toList, hadj]

/-- the Euler-angle matrix of `normalize_matrix5` is a proper rotation -/
theorem euler_rot (cA sA cB sB cG sG : α) (hA : cA * cA + sA * sA = 1) (hB : cB * cB + sB * sB = 1)
    (hG : cG * cG + sG * sG = 1) :
    Rot ⟨⟨cB, -cG * sB, sG * sB⟩, ⟨cA * sB, cA * cB * cG - sA * sG, -cG * sA - cA * cB * sG⟩,
         ⟨sA * sB, cA * sG + cB * cG * sA, cA * cG - cB * sA * sG⟩⟩ ∧
    det3 ⟨⟨cB, -cG * sB, sG * sB⟩, ⟨cA * sB, cA * cB * cG - sA * sG, -cG * sA - cA * cB * sG⟩,
         ⟨sA * sB, cA * sG + cB * cG * sA, cA * cG - cB * sA * sG⟩⟩ = 1 := by
  -- six row relations and the determinant; the coefficients were computed with sympy (reduction modulo hA, hB, hG)
  refine ⟨Rot.of_rows _ ?_ ?_ ?_ ?_ ?_ ?_, ?_⟩ <;> simp only [V3.dot, det3, V3.cross]
  · linear_combination hB + (sB ^ 2) * hG
  · linear_combination (cB^2*cG^2 + cB^2*sG^2 + sB^2) * hA + (-cG^2*sA^2 + cG^2 - sA^2*sG^2 + sG^2) * hB +
      (sA^2*sB^2 - sB^2 + 1) * hG
  · linear_combination (cG^2 + sG^2) * hA + (cG^2*sA^2 + sA^2*sG^2) * hB + (-sA^2*sB^2 + 1) * hG
  · linear_combination (-cA*cB*sB) * hG
  · linear_combination (-cB*sA*sB) * hG
  · linear_combination (cA*cG^2*sA + cA*sA*sG^2) * hB + (-cA*sA*sB^2) * hG
  · linear_combination (cB^2*cG^2 + cB^2*sG^2 + cG^2*sB^2 + sB^2*sG^2) * hA + (cG^2 + sG^2) * hB + hG

/-- the nine entries, row-major, all given (`m.toList.map some`, as `full_rotation_kept` writes it) -/
def flat9 (m : M3 α) : List (Option α) :=
  [some m.r1.x, some m.r1.y, some m.r1.z, some m.r2.x, some m.r2.y, some m.r2.z, some m.r3.x, some m.r3.y, some m.r3.z]

/-- the nine entries of a card, row-major, `none` = not given -/
def flatO (m : M3 (Option α)) : List (Option α) :=
  [m.r1.x, m.r1.y, m.r1.z, m.r2.x, m.r2.y, m.r2.z, m.r3.x, m.r3.y, m.r3.z]

/-- the five supplied entries (a full row `rx ry rz`, the rest `cy cz` of a full column), with the row in position
`i` and the column in position `j` -/
def pattern5 (rx ry rz cy cz : α) (i j : Nat) : List (Option α) :=
  flatO (rollM ⟨⟨some rx, some ry, some rz⟩, ⟨some cy, none, none⟩, ⟨some cz, none, none⟩⟩ i j)

/-- the matrix of `normalize_matrix5` before it is rolled into place: `cos β = rx`, `sin β = s`; `γ` from
`(ry, rz) / s`, `α` from `(cy, cz) / s`, both 0 when `s = 0` -/
def euler5 (rx ry rz cy cz : α) : M3 α :=
  let s := Transc.sqrt (ry * ry + rz * rz)
  let (cosG, sinG, cosA, sinA) : α × α × α × α := if s == 0 then (1, 0, 1, 0) else (-ry / s, rz / s, cy / s, cz / s)
  ⟨⟨rx, ry, rz⟩, ⟨cy, cosA * rx * cosG - sinA * sinG, -cosG * sinA - cosA * rx * sinG⟩,
   ⟨cz, cosA * sinG + rx * cosG * sinA, cosA * cosG - rx * sinA * sinG⟩⟩

theorem normMatrix5_eval (rx ry rz cy cz : α) (i j : Nat) (hi : i < 3) (hj : j < 3) :
    normMatrix (pattern5 rx ry rz cy cz i j) = .ok (flat9 (rollM (euler5 rx ry rz cy cz) i j)) := by
  obtain rfl | rfl | rfl : i = 0 ∨ i = 1 ∨ i = 2 := by omega
  all_goals
    obtain rfl | rfl | rfl : j = 0 ∨ j = 1 ∨ j = 2 := by omega
    -- plain `rfl` fails for a roll by 0: `%` on `List.length` of an open list needs the irreducible fuel recursion
    -- of `Nat.mod`
    all_goals with_unfolding_all rfl

/-- every supplied entry (`some`) of the card is found at its place in the completed matrix (not `Surf.Agrees`, which
compares a converted collection with a surface card, nor `Agree` of the cell section) -/
def Agrees : List (Option α) → List (Option α) → Prop
  | [], [] => True
  | p :: ps, q :: qs => (p = none ∨ p = q) ∧ Agrees ps qs
  | _, _ => False

theorem euler5_rot (ok : TranscOK α) (r c : V3 α) (hx : c.x = r.x) (hr : r.dot r = 1) (hc : c.dot c = 1) :
    Rot (euler5 r.x r.y r.z c.y c.z) ∧ det3 (euler5 r.x r.y r.z c.y c.z) = 1 := by
  obtain ⟨rx, ry, rz⟩ := r
  obtain ⟨cx, cy, cz⟩ := c
  simp only at hx
  subst hx
  simp only [V3.dot] at hr hc
  have hnn : 0 ≤ ry * ry + rz * rz := add_nonneg (mul_self_nonneg _) (mul_self_nonneg _)
  rcases hnn.lt_or_eq with hs | hs
  · have hsp := ok.sqrt_pos _ hs
    have hs2 := ok.sqrt_sq _ hs.le
    have hne : (Transc.sqrt (ry * ry + rz * rz) == 0) = false := by simpa using hsp.ne'
    simp only [euler5, hne, Bool.false_eq_true, if_false]
    generalize Transc.sqrt (ry * ry + rz * rz) = s at *
    have hs0 := hsp.ne'
    have hB : cx * cx + s * s = 1 := by rw [hs2]; linear_combination hr
    have hG : (-ry / s) * (-ry / s) + (rz / s) * (rz / s) = 1 := by field_simp; linear_combination (-1 : α) * hs2
    have hA : (cy / s) * (cy / s) + (cz / s) * (cz / s) = 1 := by field_simp; linear_combination hc - hB
    -- the angles as in `euler5`; the entries differ by `x / s * s = x`
    convert euler_rot (cy / s) (cz / s) cx s (-ry / s) (rz / s) hA hB hG using 5 <;> field_simp
  · obtain ⟨rfl, rfl⟩ := mul_self_add_mul_self_eq_zero.mp hs.symm
    have hxx : cx * cx = 1 := by linear_combination hr
    obtain ⟨rfl, rfl⟩ := mul_self_add_mul_self_eq_zero.mp (show cy * cy + cz * cz = 0 by linear_combination hc - hxx)
    have h00 : Transc.sqrt ((0:α) * 0 + 0 * 0) = 0 := mul_self_eq_zero.mp ((ok.sqrt_sq _ hnn).trans (by ring))
    simp only [euler5, h00, beq_self_eq_true, if_true]
    -- `sin β = 0`, the row is `(±1, 0, 0)`: the Euler matrix with `γ = α = 0`
    convert euler_rot 1 0 cx 0 1 0 (by ring) (by linear_combination hxx) (by ring) using 5 <;> ring

/-- **one row and one column given, in any of the nine positions** (five entries: the Euler-angle form): the card is
completed to a proper rotation that reproduces every supplied entry -/
theorem row_column_completed (ok : TranscOK α) (r c : V3 α) (hx : c.x = r.x) (hr : r.dot r = 1) (hc : c.dot c = 1)
    (i j : Nat) (hi : i < 3) (hj : j < 3) :
    ∃ m : M3 α, normMatrix (pattern5 r.x r.y r.z c.y c.z i j) = .ok (flat9 m) ∧ Rot m ∧ det3 m = 1 ∧
      Agrees (pattern5 r.x r.y r.z c.y c.z i j) (flat9 m) := by
  obtain ⟨hR', hdet'⟩ := roll_rot _ (euler5_rot ok r c hx hr hc) i j
  refine ⟨_, normMatrix5_eval r.x r.y r.z c.y c.z i j hi hj, hR', hdet', ?_⟩
  have hi' : i = 0 ∨ i = 1 ∨ i = 2 := by omega
  have hj' : j = 0 ∨ j = 1 ∨ j = 2 := by omega
  -- the first row and the first column of `euler5` are the five inputs; the roll takes them to the places of the
  -- `some`s
  rcases hi' with rfl | rfl | rfl <;> rcases hj' with rfl | rfl | rfl <;>
    simp [Agrees, pattern5, flatO, flat9, rollM, rollCols, rowRoll, colRoll, euler5]

/-- non-vacuity over ℝ: second row and third column given -/
example : ∃ m : M3 ℝ, normMatrix (pattern5 (0:ℝ) 1 0 0 1 1 2) = .ok (flat9 m) ∧ Rot m ∧ det3 m = 1 ∧
    Agrees (pattern5 (0:ℝ) 1 0 0 1 1 2) (flat9 m) :=
  row_column_completed transcOK_real ⟨0, 1, 0⟩ ⟨0, 0, 1⟩ rfl (by norm_num [V3.dot]) (by norm_num [V3.dot]) 1 2
    (by norm_num) (by norm_num)

/-! ### cells: TRCL and FILL transformations move whole cells (`pot_transform`, `cell_transform`)

`q` is a point in the frame of the cell that is moved, `p` its image; `v.σ`, `v.cv` are the senses of the surfaces and
the membership in the cells at `q`, `v.σ'`, `v.cv'` the same at `p`.  `Agree tr st' v`: every surface number created
by the walk has at `p` the sense its source (surface, facet) has at `q` — which is what `transformed_card` shows for
the definition `transformation()` gives it, with `q = m.toAux p` — and every cell number created stands at `p` for its
source at `q`. -/

/-- **the tree `pot_transform` returns holds at the image point exactly when the original tree holds at the original
point**: any tree without `#` (they are eliminated before), cell references followed to any depth, the cache in any
state reached by earlier calls, the same or other transformations before -/
theorem transformed_tree (tr fuel : Nat) (g g' : Geom) (st st' : PTSt)
    (h : potTransform tr fuel g st = .ok (g', st')) (hc : CacheInMade st) (v : Vals) (ha : Agree tr st' v)
    (hs : MadeSound tr st v) (hz : g.nonzero = true) (hf : g.complFree = true) :
    g'.eval v.σ' v.cv' = g.eval v.σ v.cv :=
  (((pt_sound tr fuel).1 g st g' st' h).2 hc v ha hs).2 hz hf

/-- **every cell `cell_transform` creates is the image of its source**: it is stored in the cell dictionary under a
number of its own, and its tree holds at the image point exactly when the source tree holds at the original point;
with the cache switched on or off -/
theorem transformed_cell (tr fuel : Nat) (useCache : Bool) (c k : Nat) (st st' : PTSt)
    (h : cellTransform tr useCache fuel c st = .ok (k, st')) (hc : CacheInMade st) (hm : MadeInCells st) :
    ∃ e ∈ st'.made, e.cell = c ∧ e.tr = tr ∧ e.new = k ∧ (k, e.dst) ∈ st'.cells ∧ (c, e.src) ∈ st'.cells ∧
      ∀ v, Agree tr st' v → MadeSound tr st v → e.src.nonzero = true → e.src.complFree = true →
        e.dst.eval v.σ' v.cv' = e.src.eval v.σ v.cv := by
  obtain ⟨step, hr⟩ := (pt_sound tr fuel).2.2 useCache c st k st' h
  obtain ⟨⟨e, he, h1, h2, h3⟩, hv⟩ := hr hc
  have hmc := step.inCells hm e he
  exact ⟨e, he, h1, h2, h3, h3 ▸ hmc.1, h1 ▸ hmc.2, fun v ha hs hz hf => hv v ha hs e he h2 hz hf⟩

/-- the numbers handed out (surfaces and cells) are pairwise different, so `Agree` never asks one number to stand
for two things -/
theorem new_numbers_fresh (tr fuel : Nat) (g g' : Geom) (st st' : PTSt)
    (h : potTransform tr fuel g st = .ok (g', st')) (hf : Fresh st) :
    (st'.newSurfs.map (·.1)).Nodup ∧ (st'.made.map (·.new)).Nodup :=
  let r := ((pt_sound tr fuel).1 g st g' st' h).1.fresh hf
  ⟨r.2.1, r.2.2.2⟩

/-- the state a conversion starts from meets every hypothesis above -/
theorem initial_state_ok (ns nc : Nat) (cells : List (Nat × Geom)) (tr : Nat) (v : Vals) :
    let st : PTSt := { nextSurf := ns, nextCell := nc, cells := cells }
    CacheInMade st ∧ MadeInCells st ∧ Fresh st ∧ MadeSound tr st v := by
  refine ⟨?_, ?_, ⟨?_, ?_, ?_, ?_⟩, ?_⟩ <;> simp [CacheInMade, MadeInCells, MadeSound]

/-- a run: cell 5 (`2.1`) is referenced from the tree `-3 ∩ cell 5`; the walk creates surfaces 101, 102 and cell 51 -/
example : ((potTransform 7 9 (.node .inter [.surf (-3) none, .cref 5])
      { nextSurf := 100, nextCell := 50, cells := [(5, .surf 2 (some 1))] }).toOption.map
      fun r => (r.2.newSurfs, r.2.cache, r.2.nextCell))
    = some ([(101, (3, none, 7)), (102, (2, some 1, 7))], [((5, 7), 51)], 51) := by rfl

end T4V.C04
