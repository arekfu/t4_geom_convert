import T4V.Model.Write
import T4V.Spec.T4
import T4V.Proofs.OptTokens
import T4V.Proofs.Scan
import Std.Data.String.ToNat
/-!
# Tokens; the digits of a number; `words` after `" ".join`; the reader of `VOLU` bodies inverts the writer

`Tok` is what the written text is made of.  The characters of `toString n` are digits, so it is a token and no keyword.
`words` gives back the tokens a line was joined from.  With that, `readBody` on the words of a written volume finds
what was written (property C08).
-/
namespace T4V.CMP
open T4V.CC

/-- a token: non-empty, no white space (what `str.split()` returns and `" ".join` may be given); `TokL` is the same of a
list of characters -/
def Tok (w : String) : Prop := w ≠ "" ∧ ∀ c ∈ w.toList, cws c = false

instance (w : String) : Decidable (Tok w) := inferInstanceAs (Decidable (_ ∧ _))

def TokL (l : List Char) : Prop := l ≠ [] ∧ ∀ c ∈ l, cws c = false

theorem tok_iff (w : String) : Tok w ↔ TokL w.toList := by
  unfold Tok TokL
  rw [ne_eq, ne_eq, String.toList_eq_nil_iff]

end T4V.CMP

namespace T4V.WR
open T4V.CMP T4V.CC

theorem toNat_toString (n : Nat) : (toString n).toNat? = some n := Nat.toNat?_repr n

theorem toList_toString (n : Nat) : (toString n).toList = Nat.toDigits 10 n := Nat.toList_repr

theorem nat_chars_digits (n : Nat) : ∀ c ∈ (toString n).toList, c.isDigit = true := by
  intro c hc
  rw [toList_toString] at hc
  exact Nat.isDigit_of_mem_toDigits (by decide) (by decide) hc

theorem nat_chars_ne_nil (n : Nat) : (toString n).toList ≠ [] := by
  rw [toList_toString]; exact Nat.toDigits_ne_nil

theorem digit_facts (c : Char) (h : c.isDigit = true) :
    cws c = false ∧ c ≠ '-' ∧ c ≠ '+' ∧ c ≠ ',' ∧ c ≠ ':' := by
  rw [charIsDigit_iff] at h
  refine ⟨not_ws_of_gt c (by omega), ?_⟩
  simp only [ne_eq, ← Char.toNat_inj, Char.reduceToNat]
  omega

theorem toString_ne (n : Nat) {w : String} (hw : w.toList.all Char.isDigit = false) : toString n ≠ w := by
  intro e
  rw [← e, List.all_eq_true.mpr (nat_chars_digits n)] at hw
  cases hw

/-- `EQUA` is no keyword of `isKw`; it is listed for `Tok` -/
theorem volLit_tok : ∀ w ∈ ["EQUA", "PLUS", "MINUS", "UNION", "INTE", "FICTIVE", "ENDV"],
    Tok w ∧ w.toList.all Char.isDigit = false := by
  decide +kernel

theorem isKw_toString (n : Nat) : isKw (toString n) = false := by
  cases hk : isKw (toString n) with
  | false => rfl
  | true =>
    have hm : toString n ∈ ["PLUS", "MINUS", "UNION", "INTE", "FICTIVE", "ENDV"] := by simpa [isKw, or_assoc] using hk
    exact absurd rfl (toString_ne n (volLit_tok _ (List.mem_cons_of_mem _ hm)).2)

theorem readCounted_ids (ids : List Nat) (k : String) (r : List String) (hk : isKw k = true) :
    readCounted (toString ids.length :: (ids.map toString ++ k :: r)) = (some ids.length, ids.map toString, k :: r) := by
  have s := Scan.scan (p := fun t => !isKw t) (a := ids.map toString) (g := k :: r)
    (fun t ht => by
      obtain ⟨n, _, rfl⟩ := List.mem_map.mp ht
      simp [show isKw n.repr = false from isKw_toString n])
    (.cons (by simp [hk]))
  simp only [readCounted, toNat_toString, s.1, s.2]

theorem natItems_ids (ctx : String) (ids : List Nat) : natItems ctx (ids.map toString) = (ids, []) := by
  induction ids with
  | nil => rfl
  | cons a ids ih =>
    simp only [natItems, Prod.mk.injEq] at ih ⊢
    simp only [List.map_cons, List.filterMap_cons, toNat_toString, List.filter_cons, Option.isNone_some]
    exact ⟨by rw [ih.1], by simp [ih.2]⟩

theorem countErr_ok (ctx kw : String) (n : Nat) : countErr ctx kw (some n) n = [] := by
  simp [countErr]

/-- the keyword of an operator -/
def opName : OpKind → String
  | .union => "UNION"
  | .inte => "INTE"

section ReadBody
variable (ctx : String)

theorem readBody_plus (fuel : Nat) (ids : List Nat) (k : String) (r : List String) (hk : isKw k = true) (b : VBody) :
    readBody ctx (fuel + 1) ("PLUS" :: toString ids.length :: (ids.map toString ++ k :: r)) b
      = readBody ctx fuel (k :: r) { b with pluses := b.pluses ++ ids } := by
  rw [readBody]
  simp only [beq_self_eq_true, if_true, readCounted_ids ids k r hk, natItems_ids, countErr_ok, List.length_map,
    List.append_nil]

theorem readBody_minus (fuel : Nat) (ids : List Nat) (k : String) (r : List String) (hk : isKw k = true) (b : VBody) :
    readBody ctx (fuel + 1) ("MINUS" :: toString ids.length :: (ids.map toString ++ k :: r)) b
      = readBody ctx fuel (k :: r) { b with minuses := b.minuses ++ ids } := by
  rw [readBody]
  simp only [show ("MINUS" == "PLUS") = false by decide, beq_self_eq_true, if_true, Bool.false_eq_true, if_false,
    readCounted_ids ids k r hk, natItems_ids, countErr_ok, List.length_map, List.append_nil]

theorem readBody_op (fuel : Nat) (o : OpKind) (ids : List Nat) (k : String) (r : List String) (hk : isKw k = true)
    (b : VBody) (hb : b.op = none) :
    readBody ctx (fuel + 1) (opName o :: toString ids.length :: (ids.map toString ++ k :: r)) b
      = readBody ctx fuel (k :: r) { b with op := some (o, ids) } := by
  rw [readBody]
  cases o <;>
    simp only [opName, String.reduceBEq, Bool.true_or, Bool.or_true, if_true, Bool.false_eq_true, if_false,
      readCounted_ids ids k r hk, natItems_ids, countErr_ok, List.length_map, List.append_nil, hb, Option.isSome_none]

theorem readBody_fictive (fuel : Nat) (r : List String) (b : VBody) :
    readBody ctx (fuel + 1) ("FICTIVE" :: r) b = readBody ctx fuel r { b with fictive := true } := by
  rw [readBody]
  simp

theorem readBody_endv (fuel : Nat) (b : VBody) :
    readBody ctx (fuel + 1) ["ENDV"] b = { b with ended := true } := by
  rw [readBody]
  simp

/-! ### the four stages of a line, last to first

`readBody_from_end`, `_op`, `_minus`, `_plus`: what `readBody` finds from that point of the line to its end.
Each stage needs one unit of fuel per keyword it may read: `FICTIVE` and `ENDV` two, the operator one more, `MINUS` and
`PLUS` one each. -/

def endWords (fict : Bool) : List String := (if fict then ["FICTIVE"] else []) ++ ["ENDV"]

def opWords : Option (OpKind × List Nat) → List String
  | some (o, ids) => [opName o, toString ids.length] ++ ids.map toString
  | none => []

def sectionWords (kw : String) (ids : List Nat) : List String :=
  if ids.isEmpty then [] else [kw, toString ids.length] ++ (ids.mergeSort natLe).map toString

theorem endWords_head (fict : Bool) : ∃ k r, endWords fict = k :: r ∧ isKw k = true := by
  cases fict
  · exact ⟨"ENDV", [], rfl, rfl⟩
  · exact ⟨"FICTIVE", ["ENDV"], rfl, rfl⟩

theorem readBody_from_end (fict : Bool) (fuel : Nat) (b : VBody) :
    readBody ctx (fuel + 2) (endWords fict) b = { b with fictive := fict || b.fictive, ended := true } := by
  cases fict
  · simp only [endWords, Bool.false_eq_true, if_false, List.nil_append, readBody_endv, Bool.false_or]
  · simp only [endWords, if_true, List.singleton_append, readBody_fictive, readBody_endv, Bool.true_or]

theorem opEnd_head (ops : Option (OpKind × List Nat)) (fict : Bool) :
    ∃ k r, opWords ops ++ endWords fict = k :: r ∧ isKw k = true := by
  cases ops with
  | none => simpa [opWords] using endWords_head fict
  | some x => exact ⟨opName x.1, _, rfl, by cases x.1 <;> rfl⟩

theorem readBody_from_op (ops : Option (OpKind × List Nat)) (fict : Bool) (fuel : Nat) (b : VBody) (hb : b.op = none) :
    readBody ctx (fuel + 3) (opWords ops ++ endWords fict) b
      = { b with op := ops, fictive := fict || b.fictive, ended := true } := by
  cases ops with
  | none => simp only [opWords, List.nil_append, readBody_from_end, hb]
  | some x =>
    obtain ⟨o, ids⟩ := x
    obtain ⟨k, r, hkr, hk⟩ := endWords_head fict
    have := readBody_op ctx (fuel + 2) o ids k r hk b hb
    simp only [opWords, List.cons_append, List.nil_append, hkr] at this ⊢
    rw [this, ← hkr, readBody_from_end]

theorem sectionWords_head (kw : String) (hkw : isKw kw = true) (ids : List Nat) (rest : List String)
    (hr : ∃ k r, rest = k :: r ∧ isKw k = true) : ∃ k r, sectionWords kw ids ++ rest = k :: r ∧ isKw k = true := by
  cases ids with
  | nil => simpa [sectionWords] using hr
  | cons a l => exact ⟨kw, _, rfl, hkw⟩

theorem sectionWords_cons (kw : String) (a : Nat) (l : List Nat) (rest : List String) :
    sectionWords kw (a :: l) ++ rest
      = kw :: toString ((a :: l).mergeSort natLe).length :: (((a :: l).mergeSort natLe).map toString ++ rest) := by
  simp [sectionWords, List.length_mergeSort]

theorem readBody_from_minus (M : List Nat) (ops : Option (OpKind × List Nat)) (fict : Bool) (fuel : Nat) (b : VBody)
    (hb : b.op = none) :
    readBody ctx (fuel + 4) (sectionWords "MINUS" M ++ (opWords ops ++ endWords fict)) b
      = { b with minuses := b.minuses ++ M.mergeSort natLe, op := ops, fictive := fict || b.fictive, ended := true } := by
  cases M with
  | nil => simp only [sectionWords, List.isEmpty_nil, if_true, List.nil_append,
      readBody_from_op ctx ops fict (fuel + 1) b hb, List.mergeSort_nil, List.append_nil]
  | cons a l =>
    obtain ⟨k, r, hkr, hk⟩ := opEnd_head ops fict
    rw [sectionWords_cons, hkr, readBody_minus ctx (fuel + 3) _ k r hk, ← hkr]
    exact readBody_from_op ctx ops fict fuel { b with minuses := b.minuses ++ (a :: l).mergeSort natLe } hb

theorem readBody_from_plus (P M : List Nat) (ops : Option (OpKind × List Nat)) (fict : Bool) (fuel : Nat) (b : VBody)
    (hb : b.op = none) :
    readBody ctx (fuel + 5) (sectionWords "PLUS" P ++ (sectionWords "MINUS" M ++ (opWords ops ++ endWords fict))) b
      = { b with pluses := b.pluses ++ P.mergeSort natLe, minuses := b.minuses ++ M.mergeSort natLe, op := ops,
                 fictive := fict || b.fictive, ended := true } := by
  cases P with
  | nil => simp only [sectionWords, List.isEmpty_nil, if_true, List.nil_append, List.mergeSort_nil, List.append_nil]
           exact readBody_from_minus ctx M ops fict (fuel + 1) b hb
  | cons a l =>
    obtain ⟨k, r, hkr, hk⟩ := sectionWords_head "MINUS" rfl M _ (opEnd_head ops fict)
    rw [sectionWords_cons, hkr, readBody_plus ctx (fuel + 4) _ k r hk, ← hkr]
    exact readBody_from_minus ctx M ops fict fuel { b with pluses := b.pluses ++ (a :: l).mergeSort natLe } hb

end ReadBody

/-! ### from the characters of the line to its words -/

theorem intercalate_joinSp : ∀ xs : List (List Char), [' '].intercalate xs = joinSp xs
  | [] => rfl
  | [w] => by simp [List.intercalate, joinSp]
  | w :: w2 :: r => by
    have ih := intercalate_joinSp (w2 :: r)
    simp only [List.intercalate, List.intersperse_cons_cons, List.flatten_cons] at ih ⊢
    simp only [joinSp]
    rw [← ih]
    simp

theorem words_append_blank (a b : String) : words (a ++ " " ++ b) = words a ++ words b := by
  unfold words
  have : (a ++ " " ++ b).toList = a.toList ++ ' ' :: b.toList := by simp
  rw [this, splitWs_append_blank, List.map_append]

theorem words_empty : words "" = [] := rfl

theorem words_intercalate (ws : List String) (h : ∀ w ∈ ws, Tok w) :
    words (" ".intercalate ws) = ws := by
  unfold words
  rw [String.toList_intercalate]
  have : " ".toList = [' '] := rfl
  rw [this, intercalate_joinSp, splitWs_join]
  · simp
  · intro x hx
    obtain ⟨w, hw, rfl⟩ := List.mem_map.mp hx
    exact (tok_iff w).mp (h w hw)

theorem words_tok (w : String) (h : Tok w) : words w = [w] := by
  simpa using words_intercalate [w] (List.forall_mem_singleton.mpr h)

theorem nat_tok (n : Nat) : Tok (toString n) :=
  ⟨(String.isNat_iff.mp (Nat.isNat_repr n)).1, fun c hc => (digit_facts c (nat_chars_digits n c hc)).1⟩

theorem volWords_sections (P M : List Nat) (ops : Option (OpKind × List Nat)) (fict : Bool) :
    volWords P M (ops.map fun x => (opName x.1, x.2)) fict ++ ["ENDV"]
      = "EQUA" :: (sectionWords "PLUS" P ++ (sectionWords "MINUS" M ++ (opWords ops ++ endWords fict))) := by
  cases ops with
  | none => simp [volWords, sectionWords, opWords, endWords]
  | some x => obtain ⟨o, ids⟩ := x; simp [volWords, sectionWords, opWords, endWords]

theorem ids_tok (ids : List Nat) : ∀ w ∈ ids.map toString, Tok w := by
  intro w hw
  obtain ⟨n, -, rfl⟩ := List.mem_map.mp hw
  exact nat_tok n

theorem sectionWords_tok (kw : String) (hkw : Tok kw) (ids : List Nat) : ∀ w ∈ sectionWords kw ids, Tok w := by
  unfold sectionWords
  split
  · exact List.forall_mem_nil _
  · simp only [List.forall_mem_append, List.forall_mem_cons]
    exact ⟨⟨hkw, nat_tok _, List.forall_mem_nil _⟩, ids_tok _⟩

theorem opWords_tok : ∀ ops : Option (OpKind × List Nat), ∀ w ∈ opWords ops, Tok w
  | none => List.forall_mem_nil _
  | some (o, ids) => by
    simp only [opWords, List.forall_mem_append, List.forall_mem_cons]
    exact ⟨⟨(volLit_tok _ (by cases o <;> simp [opName])).1, nat_tok _, List.forall_mem_nil _⟩, ids_tok _⟩

theorem volWords_tok (P M : List Nat) (ops : Option (OpKind × List Nat)) (fict : Bool) :
    ∀ w ∈ volWords P M (ops.map fun x => (opName x.1, x.2)) fict ++ ["ENDV"], Tok w := by
  rw [volWords_sections]
  simp only [List.forall_mem_append, List.forall_mem_cons]
  refine ⟨(volLit_tok _ (by simp)).1, sectionWords_tok _ (volLit_tok _ (by simp)).1 P,
    sectionWords_tok _ (volLit_tok _ (by simp)).1 M, opWords_tok ops, fun w hw => (volLit_tok w ?_).1⟩
  -- `endWords fict` is `["ENDV"]` or `["FICTIVE", "ENDV"]`
  cases fict
  · simp [show w = "ENDV" by simpa [endWords] using hw]
  · rcases (by simpa [endWords] using hw : w = "FICTIVE" ∨ w = "ENDV") with rfl | rfl <;> simp

/-- the line as written (`VolumeT4.__str__`, a blank, `ENDV`) splits into the words of the volume and `ENDV` -/
theorem words_volLine (P M : List Nat) (ops : Option (OpKind × List Nat)) (fict : Bool) :
    words (volLine P M (ops.map fun x => (opName x.1, x.2)) fict ++ " ENDV")
      = volWords P M (ops.map fun x => (opName x.1, x.2)) fict ++ ["ENDV"] := by
  have hne : volWords P M (ops.map fun x => (opName x.1, x.2)) fict ≠ [] := by simp [volWords]
  have e : volLine P M (ops.map fun x => (opName x.1, x.2)) fict ++ " ENDV"
      = " ".intercalate (volWords P M (ops.map fun x => (opName x.1, x.2)) fict ++ ["ENDV"]) := by
    rw [String.intercalate_append_of_ne_nil hne (by simp)]
    simp [volLine, String.append_assoc]
  rw [e]
  exact words_intercalate _ (volWords_tok P M ops fict)

end T4V.WR
