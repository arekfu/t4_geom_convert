import T4V.Proofs.ToT4
/-!
# The conversion loop: every live cell gets a non-virtual volume, under its own number, that
denotes the cell's expression (or no volume at all when the expression is patently empty)
-/
namespace T4V

/-- what the loop guarantees for a processed cell `c` -/
def Good (σ : TSense) (cv : Nat → Bool) (vols : List (Nat × Vol)) (c : Nat) : Prop :=
  match dictGet? vols c with
  | some v => v.fictive = false ∧ Denotes vols σ c (cv c)
  | none => cv c = false

theorem Good.iff {σ cv vols c} : Good σ cv vols c ↔
    (∃ v, dictGet? vols c = some v ∧ v.fictive = false ∧ Denotes vols σ c (cv c)) ∨
    (¬ hasKey vols c ∧ cv c = false) := by
  unfold Good
  cases hg : dictGet? vols c with
  | none =>
    have hk := dictGet?_none_iff.mp hg
    constructor
    · exact fun h => .inr ⟨hk, h⟩
    · rintro (⟨_, h', _⟩ | ⟨_, h⟩)
      · cases h'
      · exact h
  | some v =>
    have hk := dictGet?_some_hasKey hg
    constructor
    · exact fun h => .inl ⟨v, rfl, h⟩
    · rintro (⟨_, h', r⟩ | ⟨hn, _⟩)
      · cases h'; exact r
      · exact absurd hk hn

theorem Good.denotes {σ cv vols c} (h : Good σ cv vols c) (hc : cv c = true) : Denotes vols σ c true := by
  rcases Good.iff.mp h with ⟨_, _, _, hd⟩ | ⟨_, hcv⟩
  · exact hc ▸ hd
  · rw [hc] at hcv; cases hcv

theorem Good.eq_of_denotes {σ cv vols c b} (h : Good σ cv vols c) (hd : Denotes vols σ c b) : cv c = b := by
  rcases Good.iff.mp h with ⟨_, _, _, hd'⟩ | ⟨hk, _⟩
  · exact hd'.unique hd
  · exact absurd (hasKey_of_denotes hd) hk

/-- the loop after the cells `done`, started with the counter at `next0` (above every cell number): every key is an id
handed out since, above `next0`, or the number of a processed cell — so the number of the next cell is still free -/
structure LoopInv (σ : TSense) (cv : Nat → Bool) (next0 : Nat) (done : List Nat) (st : CState) : Prop where
  ok : StOK σ cv st
  le : next0 ≤ st.next
  keys : ∀ k, hasKey st.vols k → next0 < k ∨ k ∈ done
  good : ∀ c ∈ done, Good σ cv st.vols c

theorem Good.step {σ cv ids st st' c} (h : Good σ cv st.vols c) (hs : Step σ ids st st')
    (hc : c ≤ st.next) (hi : c ∉ ids) : Good σ cv st'.vols c := by
  rcases Good.iff.mp h with ⟨v, hg, hf, hd⟩ | ⟨hk, hcv⟩
  · exact Good.iff.mpr (.inl ⟨v, hs.get c v hg, hf, hs.pres c _ hd⟩)
  · exact Good.iff.mpr (.inr ⟨hs.fresh ⟨hc, hk⟩ hi, hcv⟩)

/-- one more cell processed: the state moved by a step that stored at most the cell's own number -/
theorem LoopInv.snoc {σ cv next0 done st st' c ids} (inv : LoopInv σ cv next0 done st) (ok : StOK σ cv st')
    (hs : Step σ ids st st') (hids : ∀ i ∈ ids, i = c) (hc : c ∉ done) (hle : ∀ x ∈ done, x ≤ next0)
    (hg : Good σ cv st'.vols c) : LoopInv σ cv next0 (done ++ [c]) st' := by
  refine ⟨ok, Nat.le_trans inv.le hs.le, fun k hk => ?_, fun x hx => ?_⟩
  · rcases hs.keys k hk with h | h | h
    · rcases inv.keys k h with h' | h'
      · exact Or.inl h'
      · exact Or.inr (List.mem_append_left _ h')
    · exact Or.inr (by simp [hids k h])
    · exact Or.inl (Nat.lt_of_le_of_lt inv.le h)
  · rcases List.mem_append.mp hx with hx | hx
    · exact (inv.good x hx).step hs (Nat.le_trans (hle x hx) inv.le) fun hm => hc (hids x hm ▸ hx)
    · cases List.mem_singleton.mp hx; exact hg

variable (env : CEnv) (σ : TSense) (cv : Nat → Bool) (hE : EnvOK env σ cv)
include hE

theorem convertAll_inv (fuel next0 : Nat) : ∀ (keys done : List Nat) (st st' : CState),
    LoopInv σ cv next0 done st → (done ++ keys).Nodup → (∀ c ∈ done ++ keys, c ≤ next0) →
    convertAll env fuel keys st = .ok st' → LoopInv σ cv next0 (done ++ keys) st'
  | [], done, st, st', inv, _, _, h => by
      simp only [convertAll, Except.ok.injEq] at h
      subst h; simpa using inv
  | c :: cs, done, st, st', inv, hnd, hle, h => by
      simp only [convertAll] at h
      split at h
      · cases h
      next cell hc =>
        obtain ⟨hcf, hnz, hval⟩ := hE.cells c cell hc
        simp only [Except.bind_eq_ok_iff, Prod.exists] at h
        obtain ⟨r, st1, hp, h⟩ := h
        have o := potConvert_ok env σ cv hE fuel cell st r st1 (cv c) inv.ok hcf hnz hval hp
        have hcle : c ≤ next0 := hle c (by simp)
        have hcnd : c ∉ done := fun hm => (List.nodup_append.mp hnd).2.2 c hm c (by simp) rfl
        have hled : ∀ x ∈ done, x ≤ next0 := fun x hx => hle x (by simp [hx])
        -- the cell's own number is still free: it is neither a processed cell nor above the counter
        have hfree : ¬ hasKey st.vols c := fun h' => (inv.keys c h').elim (fun _ => by omega) hcnd
        have hfresh : ¬ hasKey st1.vols c := o.step.fresh ⟨Nat.le_trans hcle inv.le, hfree⟩ (List.not_mem_nil)
        have rest : ∀ st2, LoopInv σ cv next0 (done ++ [c]) st2 → convertAll env fuel cs st2 = .ok st' →
            LoopInv σ cv next0 (done ++ c :: cs) st' := fun st2 inv1 h2 => by
          simpa using convertAll_inv fuel next0 cs (done ++ [c]) st2 st' inv1 (by simpa using hnd)
            (fun x hx => hle x (by simpa using hx)) h2
        cases r with
        | none =>
          exact rest st1 (inv.snoc o.ok o.step (by simp) hcnd hled
            (Good.iff.mpr (.inr ⟨hfresh, o.res⟩))) h
        | some j =>
          simp only at h
          split at h
          · cases h
          next v hg =>
            obtain ⟨ok', step'⟩ := o.ok.store { v with fictive := false } hfresh (Nat.le_refl _)
              (Nat.le_trans hcle (Nat.le_trans inv.le o.step.le))
            exact rest _ (inv.snoc ok' (o.step.trans step') (by simp) hcnd hled
              (Good.iff.mpr (.inl ⟨_, by rw [dictGet?_dictSet, if_pos rfl], rfl,
                Denotes.copy o.res hg hfresh rfl rfl⟩))) h

/-- **C01, Boolean core.** Starting from the empty volume dictionary with the id counter above all
cell numbers, the conversion loop gives every live cell `c` either a non-virtual volume numbered `c`
that contains exactly the points of the cell's region (`cv c`, for this and every other sense
assignment `σ`), or no volume when the region is empty at that point. -/
theorem convertAll_ok (fuel next0 : Nat) (keys : List Nat) (st' : CState)
    (hnd : keys.Nodup) (hle : ∀ c ∈ keys, c ≤ next0)
    (h : convertAll env fuel keys { next := next0 } = .ok st') :
    ∀ c ∈ keys, Good σ cv st'.vols c := by
  have inv0 : LoopInv σ cv next0 [] { next := next0 } :=
    ⟨⟨fun k hk => by obtain ⟨p, hp, _⟩ := hk; simp at hp, fun s id hm => by simp at hm,
      fun c id hm => by simp at hm⟩, Nat.le_refl _, fun k hk => by obtain ⟨p, hp, _⟩ := hk; simp at hp,
      fun c hc => by simp at hc⟩
  have := convertAll_inv env σ cv hE fuel next0 keys [] _ st' inv0 (by simpa using hnd) (by simpa using hle) h
  intro c hc
  exact this.good c (by simpa using hc)

end T4V
