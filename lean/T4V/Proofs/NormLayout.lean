import T4V.Text.GeomParse
import T4V.Proofs.Scan
/-!
# Layout layer for `normalize`: strings as tokens separated by gaps of blanks

Every regex pass of `normalize` but `subCompl` rewrites each gap as a function of the tokens on either side (`nm f`),
all for one reason (`nm_of_scan`).  `subCompl` rewrites tokens (`hrw`); what the composed gap function leaves of a gap
depends on the kinds of the two tokens only: the separator of the canonical spelling.  Result: `normalize_tokens`.
-/
namespace T4V.NL

/-! ### texts as tokens and gaps; neighbour maps -/

def AllWs (g : List Char) : Prop := ∀ c ∈ g, isWs c = true

def NoWs (t : List Char) : Prop := ∀ c ∈ t, isWs c = false

theorem AllWs.nil : AllWs [] := fun _ h => by cases h

theorem AllWs.append {a b : List Char} (ha : AllWs a) (hb : AllWs b) : AllWs (a ++ b) :=
  List.forall_mem_append.mpr ⟨ha, hb⟩

theorem AllWs.reverse {a : List Char} (ha : AllWs a) : AllWs a.reverse := fun c hc => ha c (List.mem_reverse.mp hc)

theorem NoWs.reverse {a : List Char} (ha : NoWs a) : NoWs a.reverse := fun c hc => ha c (List.mem_reverse.mp hc)

theorem AllWs.tail {c : Char} {g : List Char} (h : AllWs (c :: g)) : AllWs g := fun x hx => h x (by simp [hx])

theorem NoWs.tail {c : Char} {g : List Char} (h : NoWs (c :: g)) : NoWs g := fun x hx => h x (by simp [hx])

theorem AllWs.space : AllWs [' '] := by intro c hc; simp only [List.mem_singleton] at hc; subst hc; decide

theorem AllWs.ite {c : Bool} {x y : List Char} (hx : AllWs x) (hy : AllWs y) : AllWs (if c then x else y) := by
  cases c <;> simpa

/-- a token and the gap behind it -/
abbrev Chunk := List Char × List Char

def renderC (cs : List Chunk) : List Char := cs.flatMap fun c => c.1 ++ c.2

def render (g0 : List Char) (cs : List Chunk) : List Char := g0 ++ renderC cs

@[simp] theorem renderC_nil : renderC [] = [] := rfl

@[simp] theorem renderC_cons (c : Chunk) (cs : List Chunk) : renderC (c :: cs) = c.1 ++ c.2 ++ renderC cs := by
  simp [renderC]

theorem renderC_append (a b : List Chunk) : renderC (a ++ b) = renderC a ++ renderC b := by
  simp [renderC]

/-- tokens are non-empty and blank-free, gaps are blank -/
def ChunksOK (cs : List Chunk) : Prop := ∀ c ∈ cs, c.1 ≠ [] ∧ NoWs c.1 ∧ AllWs c.2

theorem ChunksOK.tail {c : Chunk} {cs : List Chunk} (h : ChunksOK (c :: cs)) : ChunksOK cs :=
  fun x hx => h x (by simp [hx])

theorem render_cons (g0 : List Char) (c : Chunk) (cs : List Chunk) :
    render g0 (c :: cs) = g0 ++ (c.1 ++ render c.2 cs) := by
  simp [render, List.append_assoc]

/-- the new gap from the token before, the gap and the token behind; `none` = start / end of the text -/
abbrev GapFn := Option (List Char) → List Char → Option (List Char) → List Char

/-- `nm f`, the neighbour map of `f`: every gap (the leading one `g0` included) is rewritten to `f prev gap next` -/
def nm (f : GapFn) : Option (List Char) → List Char → List Chunk → List Char × List Chunk
  | prev, g0, [] => (f prev g0 none, [])
  | prev, g0, (t, g) :: cs =>
      let r := nm f (some t) g cs
      (f prev g0 (some t), (t, r.1) :: r.2)

def rend (r : List Char × List Chunk) : List Char := render r.1 r.2

def GapFn.OK (f : GapFn) : Prop := ∀ a g b, AllWs g → AllWs (f a g b)

theorem nm_ok (f : GapFn) (hf : f.OK) : ∀ (cs : List Chunk) (prev : Option (List Char)) (g0 : List Char),
    AllWs g0 → ChunksOK cs → AllWs (nm f prev g0 cs).1 ∧ ChunksOK (nm f prev g0 cs).2
  | [], _, _, h0, _ => ⟨hf _ _ _ h0, nofun⟩
  | (t, g) :: cs, _, _, h0, h =>
      have ⟨hne, hnw, hws⟩ := h (t, g) (by simp)
      have ⟨i1, i2⟩ := nm_ok f hf cs (some t) g hws h.tail
      ⟨hf _ _ _ h0, List.forall_mem_cons.mpr ⟨⟨hne, hnw, i1⟩, i2⟩⟩

theorem nm_comp (f f' : GapFn) : ∀ (cs : List Chunk) (prev : Option (List Char)) (g0 : List Char),
    nm f prev (nm f' prev g0 cs).1 (nm f' prev g0 cs).2 = nm (fun a g b => f a (f' a g b) b) prev g0 cs
  | [], _, _ => rfl
  | (t, g) :: cs, prev, g0 => by
      have ih := nm_comp f f' cs (some t) g
      simp only [nm]
      rw [ih]

/-- `run prev` is the pass started just behind the token `prev`: if it turns "gap, token" into `f prev gap (some token)`
followed by the token and goes on behind it, and a final gap into `f prev gap none`, it is `nm f`.  `T`: what the pass
needs to know of a token. -/
theorem nm_of_scan (run : Option (List Char) → List Char → List Char) (f : GapFn) (T : List Char → Prop)
    (hend : ∀ prev g, AllWs g → run prev g = f prev g none)
    (hstep : ∀ prev g t R, AllWs g → t ≠ [] → NoWs t → T t →
      run prev (g ++ (t ++ R)) = f prev g (some t) ++ (t ++ run (some t) R)) :
    ∀ (cs : List Chunk) (prev : Option (List Char)) (g0 : List Char), AllWs g0 → ChunksOK cs →
      (∀ c ∈ cs, T c.1) →
      run prev (render g0 cs) = rend (nm f prev g0 cs)
  | [], prev, g0, h0, _, _ => by simpa [render, rend, nm] using hend prev g0 h0
  | (t, g) :: cs, prev, g0, h0, h, hT => by
      obtain ⟨hne, hnw, hg⟩ := h (t, g) (by simp)
      rw [render_cons, hstep prev g0 t _ h0 hne hnw (hT (t, g) (by simp)),
        nm_of_scan run f T hend hstep cs (some t) g hg h.tail (fun c hc => hT c (by simp [hc]))]
      simp [rend, nm, render_cons]

/-! ### tokens of a cell expression -/

inductive Tk
  | lit (cs : List Char)      -- signed surface number with optional facet; also the cell number of `#n` (before
                               -- `subCompl`)
  | op | cl | colon | hash
  | uop                        -- `_(`  (after `subCompl`)
  | cc (ds : List Char)        -- `^(n)` (after `subCompl`)
deriving Repr, DecidableEq

def Tk.chars : Tk → List Char
  | .lit cs => cs
  | .op => ['(']
  | .cl => [')']
  | .colon => [':']
  | .hash => ['#']
  | .uop => ['_', '(']
  | .cc ds => ['^', '('] ++ ds ++ [')']

def litChar (c : Char) : Bool := c.isDigit || c == '-' || c == '+' || c == '.'

def Tk.OK : Tk → Prop
  | .lit cs => cs ≠ [] ∧ ∀ c ∈ cs, litChar c = true
  | .cc ds => ds ≠ [] ∧ ∀ c ∈ ds, c.isDigit = true
  | _ => True

-- the card-text layer has its own blanks and digits (`CC.digit_not_ws`, `Proofs/CharClass`): `cws` / `CC.isDigit`
-- there, `isWs` / `Char.isDigit` of `Text/GeomParse` here
theorem digit_not_ws (d : Char) (h : d.isDigit = true) : isWs d = false := by
  cases hw : isWs d with
  | false => rfl
  | true =>
    simp only [isWs, Bool.or_eq_true, beq_iff_eq] at hw
    rcases hw with ((((rfl | rfl) | rfl) | rfl) | rfl) | rfl <;> exact absurd h (by decide)

structure LitCharProps (c : Char) : Prop where
  noWs : isWs c = false
  op : (c == '(') = false
  cl : (c == ')') = false
  colon : (c == ':') = false
  hash : (c == '#') = false
  exclOpen : exclOpen c = false
  exclClose : exclClose c = false

theorem litChar_props (c : Char) (h : litChar c = true) : LitCharProps c := by
  simp only [litChar, Bool.or_eq_true, beq_iff_eq] at h
  rcases h with ((h | rfl) | rfl) | rfl
  · -- a digit: each character tested for is not a digit
    have ne : ∀ x : Char, x.isDigit = false → (c == x) = false := fun x hx =>
      beq_false_of_ne (Scan.ne_of_class h hx)
    refine ⟨digit_not_ws c h, ne _ (by decide), ne _ (by decide), ne _ (by decide), ne _ (by decide), ?_, ?_⟩
    · simp only [exclOpen, ne '(' (by decide), ne ':' (by decide), ne '^' (by decide), ne '_' (by decide),
        Bool.or_self]
    · simp only [exclClose, ne ')' (by decide), ne ':' (by decide), ne '^' (by decide), ne '_' (by decide),
        Bool.or_self]
  all_goals constructor <;> decide

theorem digit_litChar (c : Char) (h : c.isDigit = true) : litChar c = true := by simp [litChar, h]

/-- `#` is the one token character in neither list: the caller excludes the token or proves `P '#'` -/
theorem Tk.forall_chars {P : Char → Prop} (hlit : ∀ c, litChar c = true → P c)
    (hs : ∀ c ∈ ['(', ')', ':', '_', '^'], P c) (t : Tk) (h : t.OK) (hh : t ≠ .hash ∨ P '#') :
    ∀ c ∈ t.chars, P c := by
  intro c hc
  cases t with
  | lit cs => exact hlit c (h.2 c hc)
  | cc ds =>
    simp only [Tk.chars, List.mem_append, List.mem_cons, List.mem_nil_iff, or_false] at hc
    rcases hc with ((rfl | rfl) | hc) | rfl
    · exact hs _ (by simp)
    · exact hs _ (by simp)
    · exact hlit c (digit_litChar c (h.2 c hc))
    · exact hs _ (by simp)
  | hash => cases List.mem_singleton.mp hc; exact hh.resolve_left (fun h => h rfl)
  | uop =>
    simp only [Tk.chars, List.mem_cons, List.mem_nil_iff, or_false] at hc
    rcases hc with rfl | rfl <;> exact hs _ (by simp)
  | _ => cases List.mem_singleton.mp hc; exact hs _ (by simp)

theorem Tk.chars_ne (t : Tk) (h : t.OK) : t.chars ≠ [] := by
  cases t with
  | lit cs => exact h.1
  | _ => simp [Tk.chars]

theorem Tk.chars_nows (t : Tk) (h : t.OK) : NoWs t.chars :=
  Tk.forall_chars (fun c hc => (litChar_props c hc).noWs) (by decide) t h (.inr (by decide))

theorem Tk.no_hash (t : Tk) (h : t.OK) (hne : t ≠ .hash) : ∀ c ∈ t.chars, (c == '#') = false :=
  Tk.forall_chars (fun c hc => (litChar_props c hc).hash) (by decide) t h (.inl hne)

def Tk.first : Tk → Char
  | .lit cs => cs.headD '0'
  | .op => '(' | .cl => ')' | .colon => ':' | .hash => '#' | .uop => '_' | .cc _ => '^'

def Tk.last : Tk → Char
  | .lit cs => cs.getLastD '0'
  | .op => '(' | .cl => ')' | .colon => ':' | .hash => '#' | .uop => '(' | .cc _ => ')'

theorem Tk.head_chars (t : Tk) (h : t.OK) : t.chars.head? = some t.first := by
  cases t with
  | lit cs =>
    cases cs with
    | nil => exact absurd rfl h.1
    | cons c cs => rfl
  | _ => rfl

theorem Tk.last_chars (t : Tk) (h : t.OK) : t.chars.getLast? = some t.last := by
  cases t with
  | lit cs =>
    cases hl : cs.getLast? with
    | none => exact absurd (List.getLast?_eq_none_iff.mp hl) h.1
    | some c =>
      simp only [Tk.chars, hl, Tk.last, List.getLastD_eq_getLast?]
      rfl
  | cc ds =>
    have : (Tk.cc ds).chars = ('^' :: '(' :: ds) ++ [')'] := by simp [Tk.chars]
    rw [this, List.getLast?_concat]; rfl
  | _ => rfl

theorem Tk.first_lit (cs : List Char) (h : (Tk.lit cs).OK) : litChar (Tk.lit cs).first = true :=
  h.2 _ (List.mem_of_mem_head? (Tk.head_chars _ h ▸ rfl))

theorem Tk.last_lit (cs : List Char) (h : (Tk.lit cs).OK) : litChar (Tk.lit cs).last = true :=
  h.2 _ (List.mem_of_getLast? (Tk.last_chars _ h))

/-- an operand can end / start with this token -/
def opEnd : Tk → Bool
  | .lit _ => true | .cl => true | .cc _ => true | _ => false

def opStart : Tk → Bool
  | .lit _ => true | .op => true | .uop => true | .cc _ => true | _ => false

def isLit : Tk → Bool | .lit _ => true | _ => false

def isCompl : Tk → Bool | .uop => true | .cc _ => true | _ => false

/-! ### layouts of tokens; passes as neighbour maps

Chunk level (`nm`, `ChunksOK`, `rend`) is what a scanner sees (`nm_of_scan`, `subSpaces_nm`); token level (`nmT`,
`TChunksOK`, `rendT`) is what `LegalFrom` and `hrw` speak of; `nm_toChunks` is the bridge. -/

abbrev TChunk := Tk × List Char

def toChunks (ts : List TChunk) : List Chunk := ts.map fun p => (p.1.chars, p.2)

def TChunksOK (ts : List TChunk) : Prop := ∀ p ∈ ts, p.1.OK ∧ AllWs p.2

theorem TChunksOK.nil : TChunksOK [] := nofun

theorem TChunksOK.cons {t : Tk} {g : List Char} {ts : List TChunk} (ht : t.OK) (hg : AllWs g) (h : TChunksOK ts) :
    TChunksOK ((t, g) :: ts) :=
  List.forall_mem_cons.mpr ⟨⟨ht, hg⟩, h⟩

theorem TChunksOK.append {a b : List TChunk} (ha : TChunksOK a) (hb : TChunksOK b) : TChunksOK (a ++ b) :=
  List.forall_mem_append.mpr ⟨ha, hb⟩

theorem TChunksOK.tail {p : TChunk} {ts : List TChunk} (h : TChunksOK (p :: ts)) : TChunksOK ts :=
  fun x hx => h x (by simp [hx])

theorem toChunks_ok (ts : List TChunk) (h : TChunksOK ts) : ChunksOK (toChunks ts) := by
  intro c hc
  simp only [toChunks, List.mem_map] at hc
  obtain ⟨p, hp, rfl⟩ := hc
  exact ⟨Tk.chars_ne p.1 (h p hp).1, Tk.chars_nows p.1 (h p hp).1, (h p hp).2⟩

def rendT (r : List Char × List TChunk) : List Char := render r.1 (toChunks r.2)

def nmT (f : GapFn) : Option Tk → List Char → List TChunk → List Char × List TChunk
  | prev, g0, [] => (f (prev.map Tk.chars) g0 none, [])
  | prev, g0, (t, g) :: ts =>
      let r := nmT f (some t) g ts
      (f (prev.map Tk.chars) g0 (some t.chars), (t, r.1) :: r.2)

theorem nm_toChunks (f : GapFn) : ∀ (ts : List TChunk) (prev : Option Tk) (g0 : List Char),
    nm f (prev.map Tk.chars) g0 (toChunks ts) = ((nmT f prev g0 ts).1, toChunks (nmT f prev g0 ts).2)
  | [], _, _ => rfl
  | (t, g) :: ts, prev, g0 => by
      have ih := nm_toChunks f ts (some t) g
      simp only [toChunks, List.map_cons, nm, nmT, Option.map_some] at ih ⊢
      rw [ih]

/-- `nm_toChunks` at `prev = none`, for `rw`, which does not see `none` in `Option.map Tk.chars none` -/
theorem nm_toChunks_none (f : GapFn) (g0 : List Char) (ts : List TChunk) :
    nm f none g0 (toChunks ts) = ((nmT f none g0 ts).1, toChunks (nmT f none g0 ts).2) :=
  nm_toChunks f ts none g0

theorem nmT_ok (f : GapFn) (hf : f.OK) : ∀ (ts : List TChunk) (prev : Option Tk) (g0 : List Char),
    AllWs g0 → TChunksOK ts → AllWs (nmT f prev g0 ts).1 ∧ TChunksOK (nmT f prev g0 ts).2
  | [], _, _, h0, _ => ⟨hf _ _ _ h0, nofun⟩
  | (t, g) :: ts, _, _, h0, h =>
      have ⟨ht, hws⟩ := h (t, g) (by simp)
      have ⟨i1, i2⟩ := nmT_ok f hf ts (some t) g hws h.tail
      ⟨hf _ _ _ h0, .cons ht i1 i2⟩

theorem nmT_toks (f : GapFn) : ∀ (ts : List TChunk) (prev : Option Tk) (g0 : List Char),
    (nmT f prev g0 ts).2.map (·.1) = ts.map (·.1)
  | [], _, _ => rfl
  | (t, g) :: ts, prev, g0 => by simp [nmT, nmT_toks f ts (some t) g]

/-- the pass `p` rewrites every gap by `f` and leaves the tokens alone -/
def PassIs (p : List Char → List Char) (f : GapFn) : Prop :=
  f.OK ∧ ∀ g0 ts, AllWs g0 → TChunksOK ts → p (render g0 (toChunks ts)) = rend (nm f none g0 (toChunks ts))

theorem PassIs.apply {p : List Char → List Char} {f : GapFn} (h : PassIs p f) {g0 : List Char} {ts : List TChunk}
    (h0 : AllWs g0) (hts : TChunksOK ts) : p (render g0 (toChunks ts)) = rend (nm f none g0 (toChunks ts)) :=
  h.2 g0 ts h0 hts

theorem PassIs.comp {p1 p2 : List Char → List Char} {f1 f2 : GapFn} (h1 : PassIs p1 f1) (h2 : PassIs p2 f2) :
    PassIs (fun s => p2 (p1 s)) (fun a g b => f2 a (f1 a g b) b) := by
  refine ⟨fun a g b hg => h2.1 _ _ _ (h1.1 _ _ _ hg), fun g0 ts h0 hts => ?_⟩
  obtain ⟨o1, o2⟩ := nmT_ok f1 h1.1 ts none g0 h0 hts
  show p2 (p1 (render g0 (toChunks ts))) = _
  rw [h1.apply h0 hts, ← nm_comp f2 f1 (toChunks ts) none g0, nm_toChunks_none]
  exact h2.apply o1 o2

theorem PassIs.of_scan (run : Option (List Char) → List Char → List Char) {f : GapFn} (T : List Char → Prop)
    (hf : f.OK) (hT : ∀ t : Tk, t.OK → T t.chars) (hend : ∀ prev g, AllWs g → run prev g = f prev g none)
    (hstep : ∀ prev g t R, AllWs g → t ≠ [] → NoWs t → T t →
      run prev (g ++ (t ++ R)) = f prev g (some t) ++ (t ++ run (some t) R)) : PassIs (run none) f :=
  ⟨hf, fun g0 ts h0 hts => nm_of_scan run f T hend hstep _ none g0 h0 (toChunks_ok ts hts) fun c hc => by
    obtain ⟨p, hp, rfl⟩ := List.mem_map.mp hc
    exact hT p.1 (hts p hp).1⟩

/-! ### `dropAfter`, from the left and from the right -/

theorem ws_ne {k c : Char} (hk : isWs k = false) (hc : isWs c = true) : (c == k) = false :=
  beq_false_of_ne (Scan.ne_of_class hc hk)

theorem dropAfter_gap (k : Char) (hk : isWs k = false) (b : Bool) : ∀ (g : List Char), AllWs g → ∀ rest,
    dropAfter k b (g ++ rest) = (if b then [] else g) ++ dropAfter k b rest
  | [], _, _ => by cases b <;> rfl
  | c :: g, hg, rest => by
      have hc : isWs c = true := hg c (by simp)
      have ih := dropAfter_gap k hk b g hg.tail rest
      cases b <;> simp_all [dropAfter, ws_ne hk hc]

def endsWith (k : Char) (t : List Char) : Bool := t.getLast? == some k

theorem dropAfter_cons_nws (k c : Char) (hc : isWs c = false) (b : Bool) (r : List Char) :
    dropAfter k b (c :: r) = c :: dropAfter k (c == k) r := by
  by_cases hck : (c == k) = true
  · simp [dropAfter, hck]
  · have : (c == k) = false := by simpa using hck
    simp [dropAfter, this, hc]

theorem dropAfter_tok (k : Char) : ∀ (t : List Char), t ≠ [] → NoWs t → ∀ b rest,
    dropAfter k b (t ++ rest) = t ++ dropAfter k (endsWith k t) rest
  | [], h, _, _, _ => absurd rfl h
  | [c], _, ht, b, rest => by
      have hc : isWs c = false := ht c (by simp)
      have : endsWith k [c] = (c == k) := by simp [endsWith]
      rw [List.singleton_append, dropAfter_cons_nws k c hc, this]
      rfl
  | c :: d :: t, _, ht, b, rest => by
      have hc : isWs c = false := ht c (by simp)
      have ih := dropAfter_tok k (d :: t) (by simp) ht.tail
      have he : endsWith k (c :: d :: t) = endsWith k (d :: t) := by simp [endsWith, List.getLast?_cons_cons]
      rw [List.cons_append, dropAfter_cons_nws k c hc, ih, he]
      rfl

theorem dropAfter_allWs (k : Char) (hk : isWs k = false) (b : Bool) (g : List Char) (hg : AllWs g) :
    dropAfter k b g = if b then [] else g := by
  have := dropAfter_gap k hk b g hg []
  rwa [List.append_nil, show dropAfter k b [] = [] from rfl, List.append_nil] at this

def fDropAfter (k : Char) : GapFn := fun a g _ =>
  match a with
  | some t => if endsWith k t then [] else g
  | none => g

theorem fDropAfter_ok (k : Char) : (fDropAfter k).OK := by
  intro a g b hg
  cases a with
  | none => exact hg
  | some t => exact AllWs.ite AllWs.nil hg

def prevEndsWith (k : Char) : Option (List Char) → Bool
  | some t => endsWith k t
  | none => false

theorem pass_dropAfter (k : Char) (hk : isWs k = false) : PassIs (dropAfter k false) (fDropAfter k) :=
  .of_scan (fun prev => dropAfter k (prevEndsWith k prev)) (fun _ => True) (fDropAfter_ok k) (fun _ _ => trivial)
    (fun prev g hg => by
      rw [dropAfter_allWs k hk _ g hg]
      cases prev <;> rfl)
    (fun prev g t R hg hne hnw _ => by
      rw [dropAfter_gap k hk _ g hg, dropAfter_tok k t hne hnw]
      cases prev <;> rfl)

def startsWith (k : Char) (t : List Char) : Bool := t.head? == some k

theorem endsWith_reverse (k : Char) (t : List Char) : endsWith k t.reverse = startsWith k t := by
  simp [endsWith, startsWith, List.getLast?_reverse]

/-- the scanner state after a string -/
def daState (k : Char) : Bool → List Char → Bool
  | b, [] => b
  | b, c :: r => if c == k then daState k true r else if b && isWs c then daState k true r else daState k false r

theorem dropAfter_append (k : Char) : ∀ (a : List Char) (b : Bool) (rest : List Char),
    dropAfter k b (a ++ rest) = dropAfter k b a ++ dropAfter k (daState k b a) rest
  | [], b, rest => by cases b <;> rfl
  | c :: a, b, rest => by
      by_cases hck : (c == k) = true
      · simp only [List.cons_append, dropAfter, daState, hck, if_true]
        rw [dropAfter_append k a true rest]
      · by_cases hw : (b && isWs c) = true
        · simp only [List.cons_append, dropAfter, daState, hck, Bool.false_eq_true, if_false, hw, if_true]
          exact dropAfter_append k a true rest
        · simp only [List.cons_append, dropAfter, daState, hck, Bool.false_eq_true, if_false, hw]
          rw [dropAfter_append k a false rest]

def fDropBefore (k : Char) : GapFn := fun _ g b =>
  match b with
  | some t => if startsWith k t then [] else g
  | none => g

theorem fDropBefore_ok (k : Char) : (fDropBefore k).OK := by
  intro a g b hg
  cases b with
  | none => exact hg
  | some t => exact AllWs.ite AllWs.nil hg

theorem pass_dropBefore (k : Char) (hk : isWs k = false) :
    PassIs (fun s => (dropAfter k false s.reverse).reverse) (fDropBefore k) :=
  .of_scan (fun _ s => (dropAfter k false s.reverse).reverse) (fun _ => True) (fDropBefore_ok k) (fun _ _ => trivial)
    (fun prev g hg => by
      rw [dropAfter_allWs k hk _ _ hg.reverse]
      exact g.reverse_reverse)
    (fun prev g t R hg hne hnw _ => by
      -- scanning from the right, the token resets the scanner whatever `R` left behind
      simp only [List.reverse_append, List.append_assoc]
      rw [dropAfter_append, dropAfter_tok k t.reverse (by simpa using hne) hnw.reverse, endsWith_reverse,
        dropAfter_allWs k hk _ _ hg.reverse]
      cases hs : startsWith k t <;> simp [fDropBefore, hs])

/-! ### `strip` -/

theorem dropWs_allWs (g : List Char) (hg : AllWs g) (rest : List Char) : dropWs (g ++ rest) = dropWs rest :=
  List.dropWhile_append_of_pos hg

theorem dropWs_of_allWs (g : List Char) (hg : AllWs g) : dropWs g = [] := by
  simpa [dropWs] using dropWs_allWs g hg []

theorem dropWs_noWs (c : Char) (r : List Char) (hc : isWs c = false) : dropWs (c :: r) = c :: r := by
  simp [dropWs, hc]

theorem dropWs_tok (t : List Char) (hne : t ≠ []) (hnw : NoWs t) (rest : List Char) :
    dropWs (t ++ rest) = t ++ rest := by
  cases t with
  | nil => exact absurd rfl hne
  | cons c t => exact dropWs_noWs c _ (hnw c (by simp))

def fStrip : GapFn := fun a g b =>
  match a, b with
  | some _, some _ => g
  | _, _ => []

theorem fStrip_ok : fStrip.OK := by
  intro a g b hg
  cases a with
  | none => exact AllWs.nil
  | some _ =>
    cases b with
    | none => exact AllWs.nil
    | some _ => exact hg

/-- `strip` without its first half: blanks at the end go -/
def rstrip (s : List Char) : List Char := (dropWs s.reverse).reverse

theorem rstrip_allWs (g : List Char) (hg : AllWs g) : rstrip g = [] := by
  rw [rstrip, dropWs_of_allWs _ hg.reverse]
  rfl

theorem rstrip_tok (a t R : List Char) (hne : t ≠ []) (hnw : NoWs t) :
    rstrip (a ++ (t ++ R)) = a ++ (t ++ rstrip R) := by
  have ht : dropWs (t.reverse ++ a.reverse) = t.reverse ++ a.reverse :=
    dropWs_tok t.reverse (by simpa using hne) hnw.reverse _
  simp only [rstrip, List.reverse_append, List.append_assoc]
  rw [dropWs, List.dropWhile_append, ← dropWs, ← dropWs, ht]
  split
  · rename_i he; simp [List.isEmpty_iff.mp he]
  · simp

theorem pass_strip : PassIs strip fStrip :=
  .of_scan (fun prev s => match prev with | none => strip s | some _ => rstrip s) (fun _ => True) fStrip_ok
    (fun _ _ => trivial)
    (fun prev g hg => by
      cases prev with
      | none =>
        show rstrip (dropWs g) = []
        rw [dropWs_of_allWs g hg]
        rfl
      | some p => exact rstrip_allWs g hg)
    (fun prev g t R hg hne hnw _ => by
      cases prev with
      | none =>
        show rstrip (dropWs (g ++ (t ++ R))) = t ++ rstrip R
        rw [dropWs_allWs g hg, dropWs_tok t hne hnw]
        exact rstrip_tok [] t R hne hnw
      | some p => exact rstrip_tok g t R hne hnw)

/-! ### the two insertion passes: a blank before `(` / after `)` -/

def nonExcl (excl : Char → Bool) : Option Char → Bool
  | some q => !excl q
  | none => false

/-- insert a blank before every `k` whose predecessor is not excluded -/
def genIns (k : Char) (excl : Char → Bool) : Option Char → List Char → List Char
  | _, [] => []
  | p, c :: r =>
      (if c == k && nonExcl excl p then [' ', c] else [c]) ++ genIns k excl (some c) r

/-- `subBeforeOpen` keeps its state in the text (the character just copied stays in front); `genIns` carries it -/
theorem subBeforeOpen_genIns (s : List Char) :
    subBeforeOpen s = match s with | [] => [] | q :: r => q :: genIns '(' exclOpen (some q) r := by
  fun_induction subBeforeOpen s with
  | case1 c r hc ih =>
    -- after an insertion the scanner goes on behind the `(`, which is excluded: nothing differs
    rw [ih]
    cases r <;> simp_all [genIns, nonExcl, exclOpen]
  | case2 c r hc ih =>
    rw [ih]
    simp_all [genIns, nonExcl]
  | case3 c r hne ih =>
    rw [ih]
    cases r with
    | nil => rfl
    | cons d r' =>
      have : (d == '(') = false := beq_false_of_ne fun h => hne r' (h ▸ rfl)
      simp [genIns, this]
  | case4 => rfl

theorem subBeforeOpen_eq (s : List Char) : subBeforeOpen s = genIns '(' exclOpen none s := by
  rw [subBeforeOpen_genIns]
  cases s <;> simp [genIns, nonExcl]

def lastOr (p : Option Char) (s : List Char) : Option Char := match s.getLast? with | some c => some c | none => p

theorem lastOr_cons (p : Option Char) (c : Char) (a : List Char) : lastOr p (c :: a) = lastOr (some c) a := by
  simp only [lastOr, List.getLast?_cons]
  cases a.getLast? <;> rfl

theorem genIns_append (k : Char) (e : Char → Bool) : ∀ (a : List Char) (p : Option Char) (b : List Char),
    genIns k e p (a ++ b) = genIns k e p a ++ genIns k e (lastOr p a) b
  | [], p, b => by simp [genIns, lastOr]
  | c :: a, p, b => by
      have ih := genIns_append k e a (some c) b
      simp only [List.cons_append, genIns, ih, lastOr_cons p c a, List.append_assoc]

theorem genIns_no_k (k : Char) (e : Char → Bool) : ∀ (a : List Char), (∀ c ∈ a, (c == k) = false) → ∀ p,
    genIns k e p a = a
  | [], _, _ => rfl
  | c :: a, h, p => by
      have hc := h c (by simp)
      simp only [genIns, hc, Bool.false_and, Bool.false_eq_true, if_false, List.singleton_append]
      rw [genIns_no_k k e a (fun x hx => h x (by simp [hx]))]

/-- nothing is inserted inside the token; only a leading `k` can get a blank in front -/
def InertB (k : Char) (e : Char → Bool) (t : List Char) : Prop :=
  ∀ p, genIns k e p t = (if startsWith k t && nonExcl e p then ' ' :: t else t)

theorem inertB_no_k (k : Char) (e : Char → Bool) (t : List Char) (h : ∀ c ∈ t, (c == k) = false) :
    InertB k e t := by
  intro p
  rw [genIns_no_k k e t h]
  have : startsWith k t = false := by
    cases t with
    | nil => rfl
    | cons c t => simpa [startsWith] using h c (by simp)
  simp [this]

def fInsBefore (k : Char) (e : Char → Bool) : GapFn := fun a g b =>
  match b with
  | some t =>
      if startsWith k t && nonExcl e (lastOr (match a with | some ta => ta.getLast? | none => none) g) then g ++ [' ']
      else g
  | none => g

theorem fInsBefore_ok (k : Char) (e : Char → Bool) : (fInsBefore k e).OK := by
  intro a g b hg
  cases b with
  | none => exact hg
  | some t => exact AllWs.ite (hg.append AllWs.space) hg

/-- the last character of the token before, as `fInsBefore` reads it -/
def lastCh : Option (List Char) → Option Char
  | some t => t.getLast?
  | none => none

theorem pass_insBefore (k : Char) (e : Char → Bool) (hk : isWs k = false)
    (hi : ∀ t : Tk, t.OK → InertB k e t.chars) :
    PassIs (genIns k e none) (fInsBefore k e) :=
  .of_scan (fun prev => genIns k e (lastCh prev)) (InertB k e) (fInsBefore_ok k e) hi
    (fun prev g hg => genIns_no_k k e g (fun c hc => ws_ne hk (hg c hc)) _)
    (fun prev g t R hg hne _ hi => by
      have hl : lastOr (lastOr (lastCh prev) g) t = t.getLast? := by
        cases ht : t.getLast? with
        | none => exact absurd (List.getLast?_eq_none_iff.mp ht) hne
        | some c => simp [lastOr, ht]
      rw [genIns_append, genIns_no_k k e g (fun c hc => ws_ne hk (hg c hc)), genIns_append, hi, hl]
      show _ = (if startsWith k t && nonExcl e (lastOr (lastCh prev) g) then g ++ [' '] else g) ++ _
      split <;> simp [lastCh])

/-- a token `q k …` whose `k` stands behind an excluded `q` (`_(`, `^(`) never gets a blank, whatever is in front -/
theorem inertB_guarded (k : Char) (e : Char → Bool) (q : Char) (hq : e q = true) (hqk : (q == k) = false)
    (a : List Char) (h : ∀ c ∈ a, (c == k) = false) : InertB k e (q :: k :: a) := by
  intro p
  simp [genIns, nonExcl, startsWith, hqk, hq, genIns_no_k k e a h]

theorem Tk.inertB (t : Tk) (h : t.OK) : InertB '(' exclOpen t.chars := by
  cases t with
  | lit cs => exact inertB_no_k _ _ _ fun c hc => (litChar_props c (h.2 c hc)).op
  | op => intro p; simp [Tk.chars, genIns, startsWith]
  | uop => exact inertB_guarded _ _ '_' rfl rfl [] nofun
  | cc ds =>
    refine inertB_guarded _ _ '^' rfl rfl (ds ++ [')']) fun c hc => ?_
    rcases List.mem_append.mp hc with hc | hc
    · exact (litChar_props c (digit_litChar c (h.2 c hc))).op
    · cases List.mem_singleton.mp hc; rfl
  | _ => exact inertB_no_k _ _ _ (by decide)

theorem pass_beforeOpen : PassIs subBeforeOpen (fInsBefore '(' exclOpen) := by
  rw [funext subBeforeOpen_eq]
  exact pass_insBefore '(' exclOpen (by decide) Tk.inertB

def headNonExcl (e : Char → Bool) : List Char → Bool
  | d :: _ => !e d
  | [] => false

/-- insert a blank after every `k` whose successor is not excluded -/
def genInsA (k : Char) (excl : Char → Bool) : List Char → List Char
  | [] => []
  | c :: r =>
      c :: ((if c == k && headNonExcl excl r then [' '] else []) ++ genInsA k excl r)

theorem subAfterClose_genInsA (s : List Char) : subAfterClose s = genInsA ')' exclClose s := by
  fun_induction subAfterClose s with
  | case1 c r hc ih =>
    -- `)` before a character `c` that is not excluded: `c` is no `)`, so the scanner may go on behind it
    rw [ih]
    have : (c == ')') = false := by cases h : c == ')' <;> simp_all [exclClose]
    simp_all [genInsA, headNonExcl]
  | case2 c r hc ih =>
    rw [ih]
    simp_all [genInsA, headNonExcl]
  | case3 c r hne ih =>
    -- any other beginning: either `c` is no `)`, or nothing follows
    rw [ih]
    cases h : c == ')' with
    | false => simp [genInsA, h]
    | true =>
      cases r with
      | nil => simp [genInsA, headNonExcl]
      | cons d r' => exact absurd rfl (hne d r' (by simpa using h))
  | case4 => rfl

theorem genInsA_no_k (k : Char) (e : Char → Bool) : ∀ (a : List Char), (∀ c ∈ a, (c == k) = false) → ∀ R,
    genInsA k e (a ++ R) = a ++ genInsA k e R
  | [], _, _ => rfl
  | c :: a, h, R => by
      have hc := h c (by simp)
      simp only [List.cons_append, genInsA, hc, Bool.false_and, Bool.false_eq_true, if_false, List.nil_append]
      rw [genInsA_no_k k e a (fun x hx => h x (by simp [hx]))]

/-- nothing is inserted inside the token; only a trailing `k` can get a blank behind it -/
def InertA (k : Char) (e : Char → Bool) (t : List Char) : Prop :=
  ∀ R, genInsA k e (t ++ R) = t ++ ((if endsWith k t && headNonExcl e R then [' '] else []) ++ genInsA k e R)

theorem inertA_no_k (k : Char) (e : Char → Bool) (t : List Char) (h : ∀ c ∈ t, (c == k) = false) :
    InertA k e t := by
  intro R
  have : endsWith k t = false := by
    cases hl : t.getLast? with
    | none => simp [endsWith, hl]
    | some c => simpa [endsWith, hl] using h c (List.mem_of_getLast? hl)
  simp [genInsA_no_k k e t h, this]

theorem inertA_last (k : Char) (e : Char → Bool) (a : List Char) (h : ∀ c ∈ a, (c == k) = false) :
    InertA k e (a ++ [k]) := by
  intro R
  have hend : endsWith k (a ++ [k]) = true := by simp [endsWith]
  rw [List.append_assoc, genInsA_no_k k e a h, hend]
  simp [genInsA]

def fInsAfter (k : Char) (e : Char → Bool) : GapFn := fun a g b =>
  match a with
  | some t =>
      if endsWith k t && headNonExcl e (g ++ (match b with | some tb => tb | none => [])) then ' ' :: g else g
  | none => g

theorem fInsAfter_ok (k : Char) (e : Char → Bool) : (fInsAfter k e).OK := by
  intro a g b hg
  cases a with
  | none => exact hg
  | some t => exact AllWs.ite (AllWs.space.append hg) hg

theorem headNonExcl_append (e : Char → Bool) (a b c : List Char) (ha : a ≠ []) :
    headNonExcl e (a ++ b) = headNonExcl e (a ++ c) := by
  cases a with
  | nil => exact absurd rfl ha
  | cons x a => rfl

theorem pass_insAfter (k : Char) (e : Char → Bool) (hk : isWs k = false)
    (hi : ∀ t : Tk, t.OK → InertA k e t.chars) :
    PassIs (genInsA k e) (fInsAfter k e) :=
  .of_scan (fun prev s => (if prevEndsWith k prev && headNonExcl e s then [' '] else []) ++ genInsA k e s) (InertA k e)
    (fInsAfter_ok k e) hi
    (fun prev g hg => by
      have : genInsA k e g = g := by simpa [genInsA] using genInsA_no_k k e g (fun c hc => ws_ne hk (hg c hc)) []
      rw [this]
      cases prev with
      | none => rfl
      | some p => simp only [prevEndsWith, fInsAfter, List.append_nil]; split <;> simp [*])
    (fun prev g t R hg hne _ hi => by
      -- the blank behind `prev` is decided by the first character that follows, which `R` is not
      have hh : headNonExcl e (g ++ (t ++ R)) = headNonExcl e (g ++ t) := by
        rw [← List.append_assoc, headNonExcl_append e (g ++ t) R [] (by simp [hne]), List.append_nil]
      rw [genInsA_no_k k e g (fun c hc => ws_ne hk (hg c hc)), hi, hh]
      cases prev with
      | none => rfl
      | some p => simp only [prevEndsWith, fInsAfter]; split <;> simp [*])

theorem Tk.inertA (t : Tk) (h : t.OK) : InertA ')' exclClose t.chars := by
  cases t with
  | lit cs => exact inertA_no_k _ _ _ fun c hc => (litChar_props c (h.2 c hc)).cl
  | cl => exact inertA_last _ _ [] nofun
  | cc ds =>
    refine inertA_last _ _ (['^', '('] ++ ds) fun c hc => ?_
    rcases List.mem_append.mp hc with hc | hc
    · exact (by decide : ∀ c ∈ ['^', '('], (c == ')') = false) c hc
    · exact (litChar_props c (digit_litChar c (h.2 c hc))).cl
  | _ => exact inertA_no_k _ _ _ (by decide)

theorem pass_afterClose : PassIs subAfterClose (fInsAfter ')' exclClose) := by
  rw [funext subAfterClose_genInsA]
  exact pass_insAfter ')' exclClose (by decide) Tk.inertA

/-! ### composition: the three stages of `normalize`

A = `strip`; `subUnion` (gap function `F1`) — B = `subCompl` (`hrw` below: it rewrites tokens, it is no gap map) —
C = the six passes from the second `subUnion` to the second `strip` (`F3`); `subSpaces` is applied on top
(`star ∘ F3`). -/

/-- (no `F2`: stage B is not a gap map) -/
def F1 : GapFn := fun a g b => fDropBefore ':' a (fDropAfter ':' a (fStrip a g b) b) b

/-- the gap function of stage C (`subSpaces` not included) -/
def F3 : GapFn := fun a g b =>
  fStrip a (fInsAfter ')' exclClose a (fInsBefore '(' exclOpen a (fDropBefore ')' a (fDropAfter '(' a
    (fDropBefore ':' a (fDropAfter ':' a g b) b) b) b) b) b) b

theorem pass_A : PassIs (fun s => subUnion (strip s)) F1 := by
  -- elaborated first, matched with the statement afterwards: against the statement the unifier has to guess both
  -- composed passes out of `subUnion (strip s)` and backtracks
  have h := (pass_strip.comp (pass_dropAfter ':' (by decide))).comp (pass_dropBefore ':' (by decide))
  exact h

theorem pass_C :
    PassIs (fun s => strip (subAfterClose (subBeforeOpen (subParenClose (subParenOpen (subUnion s)))))) F3 :=
  ((((((pass_dropAfter ':' (by decide)).comp (pass_dropBefore ':' (by decide))).comp
    (pass_dropAfter '(' (by decide))).comp (pass_dropBefore ')' (by decide))).comp pass_beforeOpen).comp
    pass_afterClose).comp pass_strip

/-! ### `subSpaces`: every non-empty gap becomes one `*` -/

def star (g : List Char) : List Char := if g.isEmpty then [] else ['*']

theorem subSpacesAux_gap_true : ∀ (g : List Char), AllWs g → ∀ rest,
    subSpacesAux true (g ++ rest) = subSpacesAux true rest
  | [], _, _ => rfl
  | c :: g, hg, rest => by
      have hc : isWs c = true := hg c (by simp)
      simp only [List.cons_append, subSpacesAux, hc, if_true]
      exact subSpacesAux_gap_true g hg.tail rest

theorem subSpacesAux_gap_false (g : List Char) (hg : AllWs g) (rest : List Char) :
    subSpacesAux false (g ++ rest) = star g ++ subSpacesAux (!g.isEmpty) rest := by
  cases g with
  | nil => simp [star]
  | cons c g =>
    have hc : isWs c = true := hg c (by simp)
    simp only [List.cons_append, subSpacesAux, hc, if_true, Bool.false_eq_true, if_false, star]
    rw [subSpacesAux_gap_true g hg.tail]
    simp

theorem subSpacesAux_tok : ∀ (t : List Char), t ≠ [] → NoWs t → ∀ b rest,
    subSpacesAux b (t ++ rest) = t ++ subSpacesAux false rest
  | [], h, _, _, _ => absurd rfl h
  | [c], _, ht, b, rest => by
      have hc : isWs c = false := ht c (by simp)
      simp [subSpacesAux, hc]
  | c :: d :: t, _, ht, b, rest => by
      have hc : isWs c = false := ht c (by simp)
      have ih := subSpacesAux_tok (d :: t) (by simp) ht.tail false rest
      simp only [List.cons_append, subSpacesAux, hc, Bool.false_eq_true, if_false] at ih ⊢
      rw [ih]

/-- not a `PassIs`: `*` is no blank, so `GapFn.OK` fails -/
theorem subSpaces_nm (cs : List Chunk) (g0 : List Char) (h0 : AllWs g0) (h : ChunksOK cs) :
    subSpaces (render g0 cs) = rend (nm (fun _ g _ => star g) none g0 cs) :=
  nm_of_scan (fun _ => subSpacesAux false) (fun _ g _ => star g) (fun _ => True)
    (fun _ g hg => by simpa [subSpacesAux] using subSpacesAux_gap_false g hg [])
    (fun _ g t R hg hne hnw _ => by rw [subSpacesAux_gap_false g hg, subSpacesAux_tok t hne hnw])
    cs none g0 h0 h (fun _ _ => trivial)

/-! ### what `F3` leaves of a gap -/

/-- is the gap between a token ending in `al` and a token starting with `bf` non-empty after the passes? (`e`: it was
non-empty before) -/
def gapNonempty (al bf : Char) (e : Bool) : Bool :=
  let e1 := e && !(al == ':') && !(bf == ':')
  let e2 := e1 && !(al == '(')
  let e3 := e2 && !(bf == ')')
  let e4 := e3 || (bf == '(' && !exclOpen al)
  e4 || (al == ')' && !exclClose bf)

theorem endsWith_of_last (k : Char) (t : List Char) (c : Char) (h : t.getLast? = some c) : endsWith k t = (c == k) := by
  simp [endsWith, h]

theorem startsWith_of_head (k : Char) (t : List Char) (c : Char) (h : t.head? = some c) :
    startsWith k t = (c == k) := by
  simp [startsWith, h]

theorem isEmpty_fDropAfter (k : Char) (a : List Char) (al : Char) (ha : a.getLast? = some al) (g : List Char)
    (b : Option (List Char)) : (fDropAfter k (some a) g b).isEmpty = (g.isEmpty || (al == k)) := by
  simp only [fDropAfter, endsWith_of_last k a al ha]
  cases (al == k) <;> simp

theorem isEmpty_fDropBefore (k : Char) (b : List Char) (bf : Char) (hb : b.head? = some bf) (g : List Char)
    (a : Option (List Char)) : (fDropBefore k a g (some b)).isEmpty = (g.isEmpty || (bf == k)) := by
  simp only [fDropBefore, startsWith_of_head k b bf hb]
  cases (bf == k) <;> simp

theorem isEmpty_fInsBefore (k : Char) (e : Char → Bool) (a b : List Char) (al bf : Char) (ha : a.getLast? = some al)
    (hb : b.head? = some bf) (g : List Char) :
    (fInsBefore k e (some a) g (some b)).isEmpty = (g.isEmpty && !((bf == k) && !e al)) := by
  simp only [fInsBefore, startsWith_of_head k b bf hb]
  cases g with
  | nil =>
    have hl : lastOr a.getLast? ([] : List Char) = some al := by simp [lastOr, ha]
    rw [hl]
    show (if ((bf == k) && !e al) = true then [' '] else ([] : List Char)).isEmpty = (true && !((bf == k) && !e al))
    cases ((bf == k) && !e al) <;> rfl
  | cons x g' => split <;> simp

theorem isEmpty_fInsAfter (k : Char) (e : Char → Bool) (a b : List Char) (al bf : Char) (ha : a.getLast? = some al)
    (hb : b.head? = some bf) (g : List Char) :
    (fInsAfter k e (some a) g (some b)).isEmpty = (g.isEmpty && !((al == k) && !e bf)) := by
  simp only [fInsAfter, endsWith_of_last k a al ha]
  cases g with
  | nil =>
    cases b with
    | nil => simp at hb
    | cons y r =>
      simp only [List.head?_cons, Option.some.injEq] at hb
      subst hb
      show (if ((al == k) && !e y) = true then [' '] else ([] : List Char)).isEmpty = (true && !((al == k) && !e y))
      cases ((al == k) && !e y) <;> rfl
  | cons x g' => split <;> simp

theorem F3_inner (a b : List Char) (al bf : Char) (ha : a.getLast? = some al) (hb : b.head? = some bf) (g : List Char) :
    (F3 (some a) g (some b)).isEmpty = !gapNonempty al bf (!g.isEmpty) := by
  have hs : ∀ x, fStrip (some a) x (some b) = x := fun _ => rfl
  simp only [F3, hs, isEmpty_fInsAfter _ _ a b al bf ha hb, isEmpty_fInsBefore _ _ a b al bf ha hb,
    isEmpty_fDropBefore _ b bf hb, isEmpty_fDropAfter _ a al ha, gapNonempty]
  -- every pass steps the emptiness of the gap as `gapNonempty` does; what is left is De Morgan
  simp only [Bool.not_or, Bool.not_and, Bool.not_not]

/-- what `subCompl` and the layout guarantee: a gap is non-empty between two literals and in front of `_(` / `^(` -/
def Pre (a : Tk) (g : List Char) (b : Tk) : Prop := ((isLit a && isLit b) || isCompl b) = true → g ≠ []

theorem gapNonempty_eq (al bf : Char) (e : Bool) :
    gapNonempty al bf e =
      ((e && !(al == ':' || al == '(') && !(bf == ':' || bf == ')')) || (bf == '(' && !exclOpen al) ||
        (al == ')' && !exclClose bf)) := by
  simp only [gapNonempty, Bool.not_or]
  ac_rfl

/-- the tests `gapNonempty` makes on `a.last`, expressed by the kind of the token -/
theorem Tk.last_feat (a : Tk) (ha : a.OK) (hah : a ≠ .hash) :
    (!(a.last == ':' || a.last == '(')) = opEnd a ∧ (!exclOpen a.last) = opEnd a ∧
    (a.last == ')') = (opEnd a && !isLit a) := by
  cases a with
  | lit cs =>
    obtain ⟨_, p1, p2, p3, _, p5, _⟩ := litChar_props _ (Tk.last_lit cs ha)
    rw [p1, p2, p3, p5]
    exact ⟨rfl, rfl, rfl⟩
  | hash => exact absurd rfl hah
  | _ => exact ⟨rfl, rfl, rfl⟩

/-- the tests `gapNonempty` makes on `b.first`, expressed by the kind of the token -/
theorem Tk.first_feat (b : Tk) (hb : b.OK) (hbh : b ≠ .hash) :
    (!(b.first == ':' || b.first == ')')) = opStart b ∧ (!exclClose b.first) = (opStart b && !isCompl b) ∧
    (b.first == '(') = (opStart b && !isCompl b && !isLit b) := by
  cases b with
  | lit cs =>
    obtain ⟨_, p1, p2, p3, _, _, p6⟩ := litChar_props _ (Tk.first_lit cs hb)
    rw [p1, p2, p3, p6]
    exact ⟨rfl, rfl, rfl⟩
  | hash => exact absurd rfl hbh
  | _ => exact ⟨rfl, rfl, rfl⟩

theorem gap_sep (a b : Tk) (ha : a.OK) (hb : b.OK) (hah : a ≠ .hash) (hbh : b ≠ .hash) (g : List Char)
    (hpre : Pre a g b) :
    gapNonempty a.last b.first (!g.isEmpty) = (opEnd a && opStart b) := by
  obtain ⟨a1, a2, a3⟩ := Tk.last_feat a ha hah
  obtain ⟨b1, b2, b3⟩ := Tk.first_feat b hb hbh
  rw [gapNonempty_eq, a1, a2, a3, b1, b2, b3]
  -- `ea = opEnd a`, `la = isLit a`, `sb = opStart b`, `lb = isLit b`, `cb = isCompl b`; the gap was there before
  -- (`e`) if `b` is `_(` / `^(n)` or both are literals, otherwise the second or third alternative inserts it
  have sep_bool : ∀ e ea la sb lb cb : Bool, (((la && lb) || cb) = true → e = true) →
      ((e && ea && sb) || (sb && !cb && !lb && ea) || (ea && !la && (sb && !cb))) = (ea && sb) := by
    decide
  refine sep_bool _ _ _ _ _ _ fun h => ?_
  rw [Bool.not_eq_true', List.isEmpty_eq_false_iff]
  exact hpre h

/-! ### legal layouts -/

/-- `Option.any isLit` -/
def isLitO : Option Tk → Bool
  | some (.lit _) => true
  | _ => false

/-- MCNP-legal spacing of a token list (read left to right, `prev` = the token before, `g0` = the gap in front):
two surface literals are separated by at least one blank; `#` is followed (after optional blanks) by `(` or by a cell
number; the internal markers `_(` and `^(` do not occur -/
def LegalFrom : Option Tk → List Char → List TChunk → Prop
  | _, _, [] => True
  | _, _, (.hash, _) :: (.op, g2) :: ts => LegalFrom (some .op) g2 ts
  | _, _, (.hash, _) :: (.lit ds, g2) :: ts => (∀ c ∈ ds, c.isDigit = true) ∧ LegalFrom (some (.lit ds)) g2 ts
  | _, _, (.hash, _) :: _ => False
  | _, _, (.uop, _) :: _ => False
  | _, _, (.cc _, _) :: _ => False
  | prev, g0, (.lit cs, g) :: ts => (isLitO prev = true → g0 ≠ []) ∧ LegalFrom (some (.lit cs)) g ts
  | _, _, (.op, g) :: ts => LegalFrom (some .op) g ts
  | _, _, (.cl, g) :: ts => LegalFrom (some .cl) g ts
  | _, _, (.colon, g) :: ts => LegalFrom (some .colon) g ts

def Tk.plain : Tk → Bool
  | .lit _ | .op | .cl | .colon => true
  | _ => false

/-- the ten equations of `LegalFrom` as the four cases every proof needs: `lit`, `op`, `cl`, `colon` are one case
`plain`, the condition on the blank guarded by `isLit t` -/
@[elab_as_elim]
theorem LegalFrom.ind {motive : Option Tk → List Char → List TChunk → Prop}
    (nil : ∀ prev g0, motive prev g0 [])
    (hashOp : ∀ prev g0 g g2 ts, LegalFrom (some .op) g2 ts → motive (some .op) g2 ts →
      motive prev g0 ((.hash, g) :: (.op, g2) :: ts))
    (hashNum : ∀ prev g0 g ds g2 ts, (∀ c ∈ ds, c.isDigit = true) → LegalFrom (some (.lit ds)) g2 ts →
      motive (some (.lit ds)) g2 ts → motive prev g0 ((.hash, g) :: (.lit ds, g2) :: ts))
    (plain : ∀ prev g0 t g ts, t.plain = true → (isLit t = true → isLitO prev = true → g0 ≠ []) →
      LegalFrom (some t) g ts → motive (some t) g ts → motive prev g0 ((t, g) :: ts)) :
    ∀ prev g0 ts, LegalFrom prev g0 ts → motive prev g0 ts := by
  intro prev g0 ts h
  -- by position: the cases come in the order of the equations of `LegalFrom` (4–6 are the illegal heads, 7 is `lit`)
  fun_induction LegalFrom prev g0 ts
  · exact nil _ _
  · rename_i ih; exact hashOp _ _ _ _ _ h (ih h)
  · rename_i ih; exact hashNum _ _ _ _ _ _ h.1 h.2 (ih h.2)
  iterate 3 exact h.elim
  · rename_i ih; exact plain _ _ _ _ _ rfl (fun _ => h.1) h.2 (ih h.2)
  all_goals rename_i ih; exact plain _ _ _ _ _ rfl nofun h (ih h)

theorem F1_lit (a b : Tk) (ha : a.OK) (hb : b.OK) (hla : isLit a = true) (hlb : isLit b = true) (g : List Char) :
    F1 (some a.chars) g (some b.chars) = g := by
  cases a <;> cases hla
  cases b <;> cases hlb
  rename_i cs' cs
  have h1 : endsWith ':' (Tk.lit cs').chars = false := by
    rw [endsWith_of_last _ _ _ (Tk.last_chars _ ha)]
    exact (litChar_props _ (Tk.last_lit cs' ha)).colon
  have h2 : startsWith ':' (Tk.lit cs).chars = false := by
    rw [startsWith_of_head _ _ _ (Tk.head_chars _ hb)]
    exact (litChar_props _ (Tk.first_lit cs hb)).colon
  simp [F1, fStrip, fDropAfter, fDropBefore, h1, h2]

theorem legal_nmT (f : GapFn) (hf : ∀ a b : Tk, a.OK → b.OK → isLit a = true → isLit b = true → ∀ g,
      f (some a.chars) g (some b.chars) = g) {prev : Option Tk} {g0 : List Char} {ts : List TChunk}
    (h : LegalFrom prev g0 ts) : TChunksOK ts → (∀ p, prev = some p → p.OK) →
    LegalFrom prev (nmT f prev g0 ts).1 (nmT f prev g0 ts).2 := by
  refine LegalFrom.ind ?_ ?_ ?_ ?_ prev g0 ts h
  · exact fun _ _ _ _ => trivial
  · intro prev g0 g g2 ts _ ih hok _
    simp only [nmT, LegalFrom]
    exact ih hok.tail.tail (fun p e => by cases e; trivial)
  · intro prev g0 g ds g2 ts hd _ ih hok _
    simp only [nmT, LegalFrom]
    exact ⟨hd, ih hok.tail.tail (fun p e => by cases e; exact (hok (.lit ds, g2) (by simp)).1)⟩
  · intro prev g0 t g ts hpl hl _ ih hok hp
    have ht := (hok (t, g) (by simp)).1
    have ih := ih hok.tail (fun p e => by cases e; exact ht)
    cases t with
    | lit cs =>
      simp only [nmT, LegalFrom]
      refine ⟨fun hlit => ?_, ih⟩
      -- `hlit` leaves `prev = some (.lit cs')` only
      match prev, hlit, hp, hl with
      | some (.lit cs'), _, hp, hl =>
        rw [Option.map_some, hf _ _ (hp _ rfl) ht rfl rfl]
        exact hl rfl rfl
    | op | cl | colon => simpa only [nmT, LegalFrom] using ih
    | _ => cases hpl

/-! ### `subCompl`: `#( … )` ↦ ` _( … )`, `#n` ↦ ` ^(n)` -/

theorem subComplF_nil (fuel : Nat) : subComplF fuel [] = [] := by cases fuel <;> rfl

theorem subComplF_fuel : ∀ (f1 f2 : Nat) (s : List Char), s.length ≤ f1 → s.length ≤ f2 →
    subComplF f1 s = subComplF f2 s
  | _, _, [], _, _ => by rw [subComplF_nil, subComplF_nil]
  | f1 + 1, f2 + 1, c :: r, h1, h2 => by
      have hr1 : r.length ≤ f1 := Nat.le_of_succ_le_succ h1
      have hr2 : r.length ≤ f2 := Nat.le_of_succ_le_succ h2
      -- every recursive call is on a suffix of `r` (after `dropWs`, after `dropWhile isDigit`), shorter than `c :: r`
      have hd := length_dropWhile_le' isWs r
      simp only [subComplF, subComplF_fuel f1 f2 r hr1 hr2]
      split
      · split
        · rename_i r' he
          have : r'.length < r.length := by
            have := congrArg List.length he
            simp only [dropWs, List.length_cons] at this
            omega
          rw [subComplF_fuel f1 f2 r' (by omega) (by omega)]
        · split
          · have hd2 := length_dropWhile_le' Char.isDigit (dropWs r)
            have hlen : ((dropWs r).dropWhile Char.isDigit).length ≤ r.length := by
              simp only [dropWs] at hd2 ⊢; omega
            rw [subComplF_fuel f1 f2 _ (by omega) (by omega)]
          · rfl
        · rfl
      · rfl

/-- `a` occurs in the length only: the callers give the text consumed so far and close the side goal by `simp` -/
theorem subCompl_tail {a R : List Char} {f : Nat} (h : (a ++ R).length ≤ f) : subComplF f R = subCompl R :=
  subComplF_fuel f R.length R (by rw [List.length_append] at h; omega) (Nat.le_refl _)

theorem subCompl_copy : ∀ (a : List Char), (∀ c ∈ a, (c == '#') = false) → ∀ R,
    subCompl (a ++ R) = a ++ subCompl R
  | [], _, _ => rfl
  | c :: a, h, R => by
      have ih := subCompl_copy a (fun x hx => h x (by simp [hx])) R
      simp only [subCompl, List.cons_append, List.length_cons, subComplF, h c (by simp), Bool.false_eq_true,
        if_false] at ih ⊢
      rw [ih]

theorem subCompl_open (g R : List Char) (hg : AllWs g) :
    subCompl ('#' :: (g ++ '(' :: R)) = ' ' :: '_' :: '(' :: subCompl R := by
  have hd : dropWs (g ++ '(' :: R) = '(' :: R := by
    rw [dropWs_allWs g hg]; exact dropWs_noWs '(' R (by decide)
  rw [subCompl, List.length_cons]
  simp only [subComplF, beq_self_eq_true, if_true, hd]
  rw [subCompl_tail (a := g ++ ['(']) (by simp)]

theorem subCompl_digits (g ds R : List Char) (hg : AllWs g) (hne : ds ≠ []) (hds : ∀ c ∈ ds, c.isDigit = true)
    (hR : Scan.Stop Char.isDigit R) :
    subCompl ('#' :: (g ++ (ds ++ R))) = [' ', '^', '('] ++ ds ++ [')'] ++ subCompl R := by
  obtain ⟨d, ds', rfl⟩ := List.exists_cons_of_ne_nil hne
  have hdd : d.isDigit = true := hds d (by simp)
  have hdp : d ≠ '(' := Scan.ne_of_class hdd (by decide)
  have hd : dropWs (g ++ (d :: ds' ++ R)) = d :: (ds' ++ R) := by
    rw [dropWs_allWs g hg]; exact dropWs_noWs d _ (digit_not_ws d hdd)
  obtain ⟨t1, t2⟩ := Scan.scan hds hR
  rw [subCompl, List.length_cons]
  simp only [subComplF, beq_self_eq_true, if_true, hd]
  split
  · have e : d :: (ds' ++ R) = (d :: ds') ++ R := rfl
    rw [e, t1, t2, subCompl_tail (a := g ++ (d :: ds')) (by simp)]
  · rename_i heq; exact absurd hdd heq

/-- the hash rewrite, `subCompl` on a layout: `#` and the `(` or cell number behind it become the one token `_(` /
`^(n)`; the gap in front gets the blank of ` _(` / ` ^(`, the gap in between goes -/
def hrw : List Char → List TChunk → List Char × List TChunk
  | g0, [] => (g0, [])
  | g0, (.hash, _) :: (.op, g2) :: ts => let r := hrw g2 ts; (g0 ++ [' '], (.uop, r.1) :: r.2)
  | g0, (.hash, _) :: (.lit ds, g2) :: ts => let r := hrw g2 ts; (g0 ++ [' '], (.cc ds, r.1) :: r.2)
  | g0, (t, g) :: ts => let r := hrw g ts; (g0, (t, r.1) :: r.2)

/-- the tokens after `subCompl` -/
def postToks : List Tk → List Tk
  | [] => []
  | .hash :: .op :: ts => .uop :: postToks ts
  | .hash :: .lit ds :: ts => .cc ds :: postToks ts
  | t :: ts => t :: postToks ts

/-- `Pre` at every gap, `prev` being the token in front of the first -/
def PreChainFrom : Option Tk → List Char → List TChunk → Prop
  | _, _, [] => True
  | prev, g, (b, g2) :: rest => (match prev with | some a => Pre a g b | none => True) ∧ PreChainFrom (some b) g2 rest

theorem hrw_plain {t : Tk} (ht : t.plain = true) (g0 g : List Char) (ts : List TChunk) :
    hrw g0 ((t, g) :: ts) = (g0, (t, (hrw g ts).1) :: (hrw g ts).2) := by
  -- a plain token is one of `lit`, `op`, `cl`, `colon`; here and below: those four by `rfl`, the others refuted
  cases t <;> first | rfl | cases ht

theorem postToks_plain {t : Tk} (ht : t.plain = true) (ts : List Tk) : postToks (t :: ts) = t :: postToks ts := by
  cases t <;> first | rfl | cases ht

/-- `prevI`: the token before in the input, `prevP`: the token before in the output; they differ behind `#(` / `#n`, and
all that has to survive is "a literal before".  Result: the chain of `Pre`, blank gaps, well-formed tokens, no `#`
left, and the tokens are `postToks` of the input's. -/
theorem hrw_spec {prevI : Option Tk} {g0 : List Char} {ts : List TChunk} (h : LegalFrom prevI g0 ts) :
    ∀ prevP, TChunksOK ts → AllWs g0 → (isLitO prevP = true → isLitO prevI = true) →
    PreChainFrom prevP (hrw g0 ts).1 (hrw g0 ts).2 ∧ AllWs (hrw g0 ts).1 ∧ TChunksOK (hrw g0 ts).2 ∧
    (∀ p ∈ (hrw g0 ts).2, p.1 ≠ .hash) ∧ (hrw g0 ts).2.map (·.1) = postToks (ts.map (·.1)) := by
  -- the blank of ` _(` / ` ^(` makes the gap in front of a complement non-empty
  have pre_snoc : ∀ (prevP : Option Tk) (g0 : List Char) (b : Tk),
      match prevP with | some a => Pre a (g0 ++ [' ']) b | none => True := by
    intro prevP g0 b
    cases prevP with
    | none => trivial
    | some a => intro _; simp
  refine LegalFrom.ind ?_ ?_ ?_ ?_ prevI g0 ts h
  · exact fun _ g0 _ _ h0 _ => ⟨trivial, h0, nofun, nofun, rfl⟩
  · intro _ g0 g g2 ts _ ih prevP hok h0 _
    obtain ⟨i1, i2, i3, i4, i5⟩ := ih (some .uop) hok.tail.tail (hok (.op, g2) (by simp)).2 nofun
    exact ⟨⟨pre_snoc prevP g0 .uop, i1⟩, h0.append AllWs.space, TChunksOK.cons trivial i2 i3,
      List.forall_mem_cons.mpr ⟨(nofun : Tk.uop ≠ .hash), i4⟩, by simp only [hrw, List.map_cons, postToks, i5]⟩
  · intro _ g0 g ds g2 ts hd _ ih prevP hok h0 _
    obtain ⟨hds, hg2⟩ := hok (.lit ds, g2) (by simp)
    obtain ⟨i1, i2, i3, i4, i5⟩ := ih (some (.cc ds)) hok.tail.tail hg2 nofun
    exact ⟨⟨pre_snoc prevP g0 (.cc ds), i1⟩, h0.append AllWs.space,
      TChunksOK.cons ⟨hds.1, hd⟩ i2 i3,
      List.forall_mem_cons.mpr ⟨(nofun : Tk.cc ds ≠ .hash), i4⟩,
      by simp only [hrw, List.map_cons, postToks, i5]⟩
  · intro prevI g0 t g ts hp hl _ ih prevP hok h0 hr
    obtain ⟨ht, hg⟩ := hok (t, g) (by simp)
    obtain ⟨i1, i2, i3, i4, i5⟩ := ih (some t) hok.tail hg id
    rw [hrw_plain hp]
    refine ⟨⟨?_, i1⟩, h0, TChunksOK.cons ht i2 i3,
      List.forall_mem_cons.mpr ⟨(by rintro rfl; cases hp), i4⟩,
      by simp only [List.map_cons, postToks_plain hp, i5]⟩
    -- a plain token is no complement: only a literal after a literal needs its blank
    cases prevP with
    | none => trivial
    | some a =>
      intro hh
      have hc : isCompl t = false := by cases t <;> first | rfl | cases hp
      simp only [hc, Bool.or_false, Bool.and_eq_true] at hh
      exact hl hh.2 (hr (by cases a <;> first | rfl | cases hh.1))

/-- after a cell number `#n` no digit follows: a literal is kept apart by a blank, no other token starts with one -/
theorem legal_after_num {ds g2 : List Char} {ts : List TChunk} (h : LegalFrom (some (.lit ds)) g2 ts)
    (hg2 : AllWs g2) (hts : TChunksOK ts) : Scan.Stop Char.isDigit (render g2 (toChunks ts)) := by
  cases g2 with
  | cons x g2' =>
    refine .cons ?_
    cases hd : x.isDigit with
    | false => rfl
    | true => have := digit_not_ws x hd; rw [hg2 x (by simp)] at this; cases this
  | nil =>
    cases ts with
    | nil => exact .nil
    | cons p ts' =>
      obtain ⟨t, g⟩ := p
      intro d hd
      have hd : t.first = d := by
        simpa [render, toChunks, List.head?_append, Tk.head_chars t (hts (t, g) (by simp)).1] using hd
      subst hd
      cases t with
      | lit cs => simp only [LegalFrom] at h; exact absurd rfl (h.1 rfl)
      | uop | cc _ => simp only [LegalFrom] at h
      | _ => rfl

theorem subCompl_hrw {prev : Option Tk} {g0 : List Char} {ts : List TChunk} (h : LegalFrom prev g0 ts) :
    TChunksOK ts → AllWs g0 → subCompl (render g0 (toChunks ts)) = rendT (hrw g0 ts) := by
  have ws_no_hash : ∀ g : List Char, AllWs g → ∀ c ∈ g, (c == '#') = false :=
    fun g hg c hc => ws_ne (by decide) (hg c hc)
  refine LegalFrom.ind ?_ ?_ ?_ ?_ prev g0 ts h
  · intro _ g0 _ h0
    exact (subCompl_copy g0 (ws_no_hash g0 h0) []).trans (by simp [subCompl, subComplF, rendT, hrw, render, toChunks])
  · intro _ g0 g g2 ts _ ih hok h0
    have e : render g0 (toChunks ((.hash, g) :: (.op, g2) :: ts)) =
        g0 ++ ('#' :: (g ++ '(' :: render g2 (toChunks ts))) := by
      simp [toChunks, render_cons, Tk.chars]
    rw [e, subCompl_copy g0 (ws_no_hash g0 h0), subCompl_open g _ (hok (.hash, g) (by simp)).2,
      ih hok.tail.tail (hok (.op, g2) (by simp)).2]
    simp [rendT, hrw, toChunks, Tk.chars, render, List.append_assoc]
  · intro _ g0 g ds g2 ts hdig h' ih hok h0
    obtain ⟨hds, hg2⟩ := hok (.lit ds, g2) (by simp)
    have e : render g0 (toChunks ((.hash, g) :: (.lit ds, g2) :: ts)) =
        g0 ++ ('#' :: (g ++ (ds ++ render g2 (toChunks ts)))) := by
      simp [toChunks, render_cons, Tk.chars]
    rw [e, subCompl_copy g0 (ws_no_hash g0 h0), subCompl_digits g ds _ (hok (.hash, g) (by simp)).2 hds.1 hdig
      (legal_after_num h' hg2 hok.tail.tail), ih hok.tail.tail hg2]
    simp [rendT, hrw, toChunks, Tk.chars, render, List.append_assoc]
  · intro _ g0 t g ts hp _ _ ih hok h0
    obtain ⟨ht, hg⟩ := hok (t, g) (by simp)
    have e : render g0 (toChunks ((t, g) :: ts)) = (g0 ++ t.chars) ++ render g (toChunks ts) := by
      simp [toChunks, render_cons]
    have hno : ∀ c ∈ g0 ++ t.chars, (c == '#') = false := fun c hc =>
      (List.mem_append.mp hc).elim (ws_no_hash g0 h0 c) (Tk.no_hash t ht (by rintro rfl; cases hp) c)
    rw [e, subCompl_copy _ hno, ih hok.tail hg, hrw_plain hp]
    simp [rendT, toChunks, render, List.append_assoc]

/-! ### the canonical spelling of a token list -/

def sepOf (a b : Tk) : List Char := if opEnd a && opStart b then ['*'] else []

def sepO : Option Tk → Tk → List Char
  | some a, b => sepOf a b
  | none, _ => []

def canonFrom : Option Tk → List Tk → List Char
  | _, [] => []
  | p, t :: ts => sepO p t ++ (t.chars ++ canonFrom (some t) ts)

theorem star_F3 (prev : Option Tk) (g : List Char) (b : Tk)
    (hp : ∀ a, prev = some a → a.OK ∧ a ≠ .hash ∧ Pre a g b) (hb : b.OK) (hbh : b ≠ .hash) :
    star (F3 (prev.map Tk.chars) g (some b.chars)) = sepO prev b := by
  cases prev with
  | none => rfl
  | some a =>
    obtain ⟨ha, hah, hpre⟩ := hp a rfl
    have h := F3_inner a.chars b.chars a.last b.first (Tk.last_chars a ha) (Tk.head_chars b hb) g
    rw [gap_sep a b ha hb hah hbh g hpre] at h
    rw [Option.map_some, star, h]
    show _ = if opEnd a && opStart b then ['*'] else []
    cases opEnd a && opStart b <;> rfl

theorem canon_F3 : ∀ (ts : List TChunk) (prev : Option Tk) (g : List Char),
    (∀ a, prev = some a → a.OK ∧ a ≠ .hash) →
    TChunksOK ts → (∀ p ∈ ts, p.1 ≠ .hash) → PreChainFrom prev g ts →
    rend (nm (fun x g y => star (F3 x g y)) (prev.map Tk.chars) g (toChunks ts)) = canonFrom prev (ts.map (·.1))
  | [], prev, g, _, _, _, _ => by cases prev <;> rfl
  | (b, g2) :: ts, prev, g, hp, hok, hnh, hc => by
      have hb := (hok (b, g2) (by simp)).1
      have hbh := hnh (b, g2) (by simp)
      have ih := canon_F3 ts (some b) g2 (fun a e => by cases e; exact ⟨hb, hbh⟩) hok.tail
        (fun p hp' => hnh p (by simp [hp'])) hc.2
      have hs := star_F3 prev g b (fun a e => by subst e; exact ⟨(hp a rfl).1, (hp a rfl).2, hc.1⟩) hb hbh
      rw [List.map_cons, canonFrom, ← ih, ← hs]
      exact render_cons _ _ _

/-- **`normalize` on a token list**: whatever the legal spacing, the result is the canonical spelling of the tokens -/
theorem normalize_tokens (ts : List TChunk) (g0 : List Char) (hok : TChunksOK ts) (h0 : AllWs g0)
    (hl : LegalFrom none g0 ts) :
    normalize (render g0 (toChunks ts)) = canonFrom none (postToks (ts.map (·.1))) := by
  obtain ⟨a1, a2⟩ := nmT_ok F1 pass_A.1 ts none g0 h0 hok
  have hlA := legal_nmT F1 F1_lit hl hok nofun
  obtain ⟨s1, s2, s3, s4, s5⟩ := hrw_spec hlA none a2 a1 nofun
  obtain ⟨c1, c2⟩ := nm_ok F3 pass_C.1 _ none _ s2 (toChunks_ok _ s3)
  rw [nmT_toks] at s5
  show subSpaces (strip (subAfterClose (subBeforeOpen (subParenClose (subParenOpen (subUnion (subCompl
    (subUnion (strip (render g0 (toChunks ts))))))))))) = _
  -- stage A as a neighbour map, then `subCompl` as the token rewrite `hrw`
  rw [pass_A.apply h0 hok, nm_toChunks_none, rend, subCompl_hrw hlA a2 a1, rendT]
  -- stage C and `subSpaces` on top of it: one neighbour map, `star ∘ F3`
  rw [pass_C.apply s2 s3, rend, subSpaces_nm _ _ c1 c2, nm_comp]
  -- whose gaps are the separators of the canonical spelling
  rw [← Option.map_none Tk.chars, canon_F3 _ none _ nofun s3 s4 s1, s5]

end T4V.NL
