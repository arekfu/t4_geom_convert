import T4V.Proofs.Expand
/-!
# pot_optimise preserves the Boolean function; `none` only for patently empty trees
-/
namespace T4V

mutual
/-- no intersection node lists one surface with both signs among its direct literals -/
def FTree.noBoth : FTree → Bool
  | .node _ .inter args => !((litsPos args).any fun s => (litsNeg args).contains s) && FTree.noBothList args
  | .node _ .union args => FTree.noBothList args
  | _ => true
def FTree.noBothList : List FTree → Bool
  | [] => true
  | t :: ts => t.noBoth && FTree.noBothList ts
end

theorem FTree.noBothList_eq (ts : List FTree) : FTree.noBothList ts = ts.all FTree.noBoth := by
  induction ts with
  | nil => rfl
  | cons t ts ih => simp [FTree.noBothList, ih]

theorem flattenArgs_eq (op : Op) (ts : List FTree) :
    flattenArgs op ts = ts.flatMap fun t =>
      match t with
      | .node _ op' a => if op' = op then a else [t]
      | _ => [t] := by
  induction ts with
  | nil => rfl
  | cons t ts ih => cases t <;> simp [flattenArgs, ih]

/-- splicing same-operator children keeps a property that every node hands down to its children -/
theorem flatten_all_of {p : FTree → Bool} (op : Op) (h : ∀ id op' a, p (.node id op' a) = true → a.all p = true)
    {ts : List FTree} (hts : ts.all p = true) : (flattenArgs op ts).all p = true := by
  rw [flattenArgs_eq, List.all_flatMap, List.all_eq_true] at *
  intro t ht
  cases t with
  | node id op' a => by_cases e : op' = op <;> simp [e, h id op' a (hts _ ht), hts _ ht]
  | _ => simpa using hts _ ht

theorem flatten_evalAll (m : Matching) (σ : TSense) (cv : Nat → Bool) (ts : List FTree) :
    FTree.evalAll m σ cv (flattenArgs .inter ts) = FTree.evalAll m σ cv ts := by
  simp only [FTree.evalAll_eq]
  rw [flattenArgs_eq, List.all_flatMap]
  congr 1; funext t
  cases t with
  | node id op' a => cases op' <;> simp [FTree.eval, FTree.evalAll_eq]
  | _ => simp

theorem flatten_evalAny (m : Matching) (σ : TSense) (cv : Nat → Bool) (ts : List FTree) :
    FTree.evalAny m σ cv (flattenArgs .union ts) = FTree.evalAny m σ cv ts := by
  simp only [FTree.evalAny_eq]
  rw [flattenArgs_eq, List.any_flatMap]
  congr 1; funext t
  cases t with
  | node id op' a => cases op' <;> simp [FTree.eval, FTree.evalAny_eq]
  | _ => simp

theorem flatten_expanded (op : Op) (ts : List FTree) (h : FTree.expandedList ts = true) :
    FTree.expandedList (flattenArgs op ts) = true := by
  rw [FTree.expandedList_eq] at *
  exact flatten_all_of op (fun _ _ a h => by simpa [FTree.expanded, FTree.expandedList_eq] using h) h

theorem flatten_noBoth (op : Op) (ts : List FTree) (h : FTree.noBothList ts = true) :
    FTree.noBothList (flattenArgs op ts) = true := by
  rw [FTree.noBothList_eq] at *
  refine flatten_all_of op (fun _ op' a h => ?_) h
  rw [← FTree.noBothList_eq]
  cases op' with
  | inter => simp only [FTree.noBoth, Bool.and_eq_true] at h; exact h.2
  | union => simpa only [FTree.noBoth] using h

theorem flatten_ids (op : Op) (ts : List FTree) :
    (FTree.idsList (flattenArgs op ts)).Sublist (FTree.idsList ts) := by
  induction ts with
  | nil => simp [flattenArgs]
  | cons t ts ih =>
    simp only [flattenArgs, FTree.idsList_eq, List.flatMap_append, List.flatMap_cons] at *
    refine List.Sublist.append ?_ ih
    cases t with
    | node id op' a => by_cases e : op' = op <;> simp [e, FTree.ids, FTree.idsList_eq]
    | _ => simp

/-- the literals of one sign among the direct children (`litsPos`, `litsNeg`) -/
theorem mem_lits {q : Int → Prop} [DecidablePred q] {ts : List FTree} {s : Nat} :
    s ∈ ts.filterMap (fun t => match t with | .lit a => if q a then some a.natAbs else none | _ => none) ↔
      ∃ a : Int, FTree.lit a ∈ ts ∧ q a ∧ a.natAbs = s := by
  simp only [List.mem_filterMap]
  constructor
  · rintro ⟨t, ht, he⟩
    cases t with
    | lit a => by_cases ha : q a <;> simp [ha] at he; exact ⟨a, ht, ha, he⟩
    | _ => simp at he
  · rintro ⟨a, ht, ha, rfl⟩; exact ⟨_, ht, by simp [ha]⟩

theorem both_signs_false (m : Matching) (σ : TSense) (cv : Nat → Bool) (ts : List FTree)
    (h : ((litsPos ts).any fun s => (litsNeg ts).contains s) = true) :
    FTree.evalAll m σ cv ts = false := by
  obtain ⟨s, hp, hn⟩ := List.any_eq_true.mp h
  obtain ⟨a, hta, ha, rfl⟩ := (mem_lits (q := (· > 0))).mp hp
  have hn : a.natAbs ∈ litsNeg ts := by simpa using hn
  obtain ⟨b, htb, hb, hab⟩ := (mem_lits (q := (· < 0))).mp hn
  rw [Bool.eq_false_iff, FTree.evalAll_eq]
  intro hall
  have e1 := List.all_eq_true.mp hall _ hta
  have e2 := List.all_eq_true.mp hall _ htb
  have hb' : ¬ b > 0 := by omega
  simp only [FTree.eval, litT, ha, hb', if_true, if_false, hab, Bool.not_eq_true'] at e1 e2
  rw [e1] at e2; cases e2

theorem potOptimise_inter (nid : Nat) (args : List FTree) :
    potOptimise (.node nid .inter args) =
      if (potOptimiseList args).any Option.isNone = true then none
      else if ((litsPos (flattenArgs .inter ((potOptimiseList args).filterMap id))).any fun s =>
              (litsNeg (flattenArgs .inter ((potOptimiseList args).filterMap id))).contains s) = true then none
      else some (.node nid .inter (flattenArgs .inter ((potOptimiseList args).filterMap id))) := by
  rw [potOptimise]
  simp only [decide_true, Bool.true_and, reduceCtorEq, if_false]

theorem potOptimise_union (nid : Nat) (args : List FTree) :
    potOptimise (.node nid .union args) =
      some (.node nid .union (flattenArgs .union ((potOptimiseList args).filterMap id))) := by
  rw [potOptimise]
  simp only [reduceCtorEq, decide_false, Bool.false_and, Bool.false_eq_true, if_false, if_true]

/-- `some`: same value, expanded, no surface on both sides of an intersection, ids a sublist; `none`: false at this
`σ` -/
structure OptPost (m : Matching) (σ : TSense) (cv : Nat → Bool) (t : FTree) (r : Option FTree) : Prop where
  some_ok : ∀ t', r = some t' → t'.eval m σ cv = t.eval m σ cv ∧ t'.expanded = true ∧
    t'.noBoth = true ∧ t'.ids.Sublist t.ids
  none_ok : r = none → t.eval m σ cv = false

/-- kept children evaluate like the originals, dropped ones are false -/
structure OptListPost (m : Matching) (σ : TSense) (cv : Nat → Bool) (ts : List FTree)
    (rs : List (Option FTree)) : Prop where
  evalAny : FTree.evalAny m σ cv (rs.filterMap id) = FTree.evalAny m σ cv ts
  evalAll : rs.any Option.isNone = false → FTree.evalAll m σ cv (rs.filterMap id) = FTree.evalAll m σ cv ts
  dead : rs.any Option.isNone = true → FTree.evalAll m σ cv ts = false
  expanded : FTree.expandedList (rs.filterMap id) = true
  noBoth : FTree.noBothList (rs.filterMap id) = true
  ids : (FTree.idsList (rs.filterMap id)).Sublist (FTree.idsList ts)

theorem OptPost.refl (m : Matching) (σ : TSense) (cv : Nat → Bool) {t : FTree} (hx : t.expanded = true)
    (hnb : t.noBoth = true) : OptPost m σ cv t (some t) :=
  ⟨fun t' h => by cases h; exact ⟨rfl, hx, hnb, List.Sublist.refl _⟩, fun h => by cases h⟩

mutual
theorem potOptimise_ok (m : Matching) (σ : TSense) (cv : Nat → Bool) :
    ∀ t : FTree, t.expanded = true → OptPost m σ cv t (potOptimise t)
  | .lit s, h => by rw [potOptimise]; exact .refl m σ cv h rfl
  | .msurf n sub, h => by simp [FTree.expanded] at h
  | .cref c, h => by rw [potOptimise]; exact .refl m σ cv h rfl
  | .node nid op args, h => by
      simp only [FTree.expanded] at h
      have ih := potOptimiseList_ok m σ cv args h
      cases op with
      | inter =>
        rw [potOptimise_inter]
        split
        next hn =>
          -- an empty child kills the intersection
          exact ⟨fun _ h => (nomatch h), fun _ => by simpa [FTree.eval] using ih.dead hn⟩
        next hn =>
          have hall := ih.evalAll (Bool.eq_false_iff.mpr hn)
          split
          next hb =>
            refine ⟨fun _ h => (nomatch h), fun _ => ?_⟩
            have := both_signs_false m σ cv _ hb
            rw [flatten_evalAll, hall] at this
            simpa [FTree.eval] using this
          next hb =>
            refine ⟨fun t' ht' => ?_, fun hh => by cases hh⟩
            cases ht'
            refine ⟨by simp only [FTree.eval, flatten_evalAll, hall],
              by simpa only [FTree.expanded] using flatten_expanded .inter _ ih.expanded, ?_,
              List.Sublist.cons_cons _ ((flatten_ids .inter _).trans ih.ids)⟩
            simp only [FTree.noBoth, Bool.eq_false_iff.mpr hb, Bool.not_false, Bool.true_and]
            exact flatten_noBoth .inter _ ih.noBoth
      | union =>
        rw [potOptimise_union]
        refine ⟨fun t' ht' => ?_, fun hh => by cases hh⟩
        cases ht'
        exact ⟨by simp only [FTree.eval, flatten_evalAny, ih.evalAny],
          by simpa only [FTree.expanded] using flatten_expanded .union _ ih.expanded,
          by simpa only [FTree.noBoth] using flatten_noBoth .union _ ih.noBoth,
          List.Sublist.cons_cons _ ((flatten_ids .union _).trans ih.ids)⟩
theorem potOptimiseList_ok (m : Matching) (σ : TSense) (cv : Nat → Bool) :
    ∀ ts : List FTree, FTree.expandedList ts = true → OptListPost m σ cv ts (potOptimiseList ts)
  | [], _ => by
      refine ⟨by simp [potOptimiseList], by simp [potOptimiseList], by simp [potOptimiseList],
        by simp [potOptimiseList, FTree.expandedList], by simp [potOptimiseList, FTree.noBothList],
        by simp [potOptimiseList]⟩
  | t :: ts, h => by
      simp only [FTree.expandedList, Bool.and_eq_true] at h
      have h1 := potOptimise_ok m σ cv t h.1
      have h2 := potOptimiseList_ok m σ cv ts h.2
      cases hr : potOptimise t with
      | none =>
        have hf := h1.none_ok hr
        refine ⟨?_, ?_, ?_, ?_, ?_, ?_⟩
        · simp [potOptimiseList, hr, FTree.evalAny, hf, h2.evalAny]
        · intro hno; simp [potOptimiseList, hr] at hno
        · intro _; simp [FTree.evalAll, hf]
        · simpa [potOptimiseList, hr] using h2.expanded
        · simpa [potOptimiseList, hr] using h2.noBoth
        · simp only [potOptimiseList, hr, FTree.idsList]
          exact List.Sublist.trans h2.ids (List.sublist_append_right _ _)
      | some t' =>
        obtain ⟨he, hx, hnb, hids⟩ := h1.some_ok t' hr
        refine ⟨?_, ?_, ?_, ?_, ?_, ?_⟩
        · simp [potOptimiseList, hr, FTree.evalAny, he, h2.evalAny]
        · intro hno
          have : (potOptimiseList ts).any Option.isNone = false := by
            simpa [potOptimiseList, hr] using hno
          simp [potOptimiseList, hr, FTree.evalAll, he, h2.evalAll this]
        · intro hd
          have : (potOptimiseList ts).any Option.isNone = true := by
            simpa [potOptimiseList, hr] using hd
          simp [FTree.evalAll, h2.dead this]
        · simp [potOptimiseList, hr, FTree.expandedList, hx, h2.expanded]
        · simp [potOptimiseList, hr, FTree.noBothList, hnb, h2.noBoth]
        · simp only [potOptimiseList, hr, FTree.idsList]
          exact List.Sublist.append hids h2.ids
end

end T4V
