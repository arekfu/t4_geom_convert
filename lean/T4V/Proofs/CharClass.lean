import T4V.Text.CardSplit
/-!
# The character classes of the card splitters as ranges of codes, and ASCII lower-casing

That two classes exclude one another is arithmetic on `Char.toNat` (`omega` after the `_iff` lemmas); everything about
`lower` follows from `lower_cases`.
-/
namespace T4V.CC

theorem cws_le (c : Char) (h : cws c = true) : c.toNat ≤ 32 := by
  simp only [cws, Bool.or_eq_true, beq_iff_eq] at h
  rcases h with ((((h | h) | h) | h) | h) | h <;> subst h <;> decide

theorem not_ws_of_gt (c : Char) (h : 32 < c.toNat) : cws c = false := by
  cases hc : cws c with
  | false => rfl
  | true => have := cws_le c hc; omega

theorem isDigit_iff (c : Char) : isDigit c = true ↔ 48 ≤ c.toNat ∧ c.toNat ≤ 57 := by
  simp only [isDigit, Bool.and_eq_true, decide_eq_true_eq]; exact Iff.rfl

/-- the toolchain's `Char.isDigit` (what `toString`, `String.toNat?` and the number models of the other texts use) -/
theorem charIsDigit_iff (c : Char) : c.isDigit = true ↔ 48 ≤ c.toNat ∧ c.toNat ≤ 57 := by
  simp [Char.isDigit, UInt32.le_iff_toNat_le]

theorem isLetter_iff (c : Char) :
    isLetter c = true ↔ (97 ≤ c.toNat ∧ c.toNat ≤ 122) ∨ (65 ≤ c.toNat ∧ c.toNat ≤ 90) := by
  simp only [isLetter, Bool.or_eq_true, Bool.and_eq_true, decide_eq_true_eq]; exact Iff.rfl

theorem isFlag_iff (c : Char) : isFlag c = true ↔ c.toNat = 43 ∨ c.toNat = 42 := by
  simp [isFlag, ← Char.toNat_inj]

theorem isSign_iff (c : Char) : isSign c = true ↔ c.toNat = 45 ∨ c.toNat = 43 := by
  simp [isSign, ← Char.toNat_inj]

theorem isMnChar_iff (c : Char) : isMnChar c = true ↔ isLetter c = true ∨ c.toNat = 47 := by
  simp [isMnChar, ← Char.toNat_inj]

theorem ws_not_digit (c : Char) (h : cws c = true) : isDigit c = false := by
  have := cws_le c h
  simp only [← Bool.not_eq_true, isDigit_iff]
  omega

theorem ws_not_sign (c : Char) (h : cws c = true) : isSign c = false := by
  have := cws_le c h
  simp only [← Bool.not_eq_true, isSign_iff]
  omega

theorem letter_not_ws (c : Char) (h : isLetter c = true) : cws c = false :=
  not_ws_of_gt c (by rw [isLetter_iff] at h; omega)

theorem letter_not_star (c : Char) (h : isLetter c = true) : (c == '*') = false := by
  rw [isLetter_iff] at h
  simp only [← Bool.not_eq_true, beq_iff_eq, ← Char.toNat_inj, Char.reduceToNat]
  omega

theorem mn_not_ws (c : Char) (h : isMnChar c = true) : cws c = false :=
  not_ws_of_gt c (by rw [isMnChar_iff, isLetter_iff] at h; omega)

theorem mn_not_digit (c : Char) (h : isMnChar c = true) : isDigit c = false := by
  simp only [← Bool.not_eq_true, isMnChar_iff, isLetter_iff, isDigit_iff] at *
  omega

theorem mn_not_sign (c : Char) (h : isMnChar c = true) : isSign c = false := by
  simp only [← Bool.not_eq_true, isMnChar_iff, isLetter_iff, isSign_iff] at *
  omega

theorem digit_not_ws (c : Char) (h : isDigit c = true) : cws c = false :=
  not_ws_of_gt c (by rw [isDigit_iff] at h; omega)

theorem digit_not_flag (c : Char) (h : isDigit c = true) : isFlag c = false := by
  simp only [← Bool.not_eq_true, isDigit_iff, isFlag_iff] at *
  omega

theorem digit_not_sign (c : Char) (h : isDigit c = true) : isSign c = false := by
  simp only [← Bool.not_eq_true, isDigit_iff, isSign_iff] at *
  omega

theorem digit_not_letter (c : Char) (h : isDigit c = true) : isLetter c = false := by
  simp only [← Bool.not_eq_true, isDigit_iff, isLetter_iff] at *
  omega

theorem flag_not_ws (c : Char) (h : isFlag c = true) : cws c = false :=
  not_ws_of_gt c (by rw [isFlag_iff] at h; omega)

theorem sign_not_ws (c : Char) (h : isSign c = true) : cws c = false :=
  not_ws_of_gt c (by rw [isSign_iff] at h; omega)

theorem flag_not_digit (c : Char) (h : isFlag c = true) : isDigit c = false := by
  simp only [← Bool.not_eq_true, isDigit_iff, isFlag_iff] at *
  omega

theorem toNat_ofNat_small (n : Nat) (h : n < 0xd800) : (Char.ofNat n).toNat = n := by
  have hv : n.isValidChar := Or.inl h
  simp [Char.ofNat, hv, Char.ofNatAux, Char.toNat, UInt32.toNat_ofNatLT]

theorem lower_cases (c : Char) :
    lower c = c ∨ (97 ≤ (lower c).toNat ∧ (lower c).toNat ≤ 122 ∧ 65 ≤ c.toNat ∧ c.toNat ≤ 90) := by
  unfold lower
  by_cases h : ('A' ≤ c && c ≤ 'Z') = true
  · right
    simp only [h, if_true]
    simp only [Bool.and_eq_true, decide_eq_true_eq] at h
    have h1 : 65 ≤ c.toNat := h.1
    have h2 : c.toNat ≤ 90 := h.2
    rw [toNat_ofNat_small _ (by omega)]
    omega
  · left; simp [h]

theorem lower_of_lt (c : Char) (h : c.toNat < 65) : lower c = c :=
  (lower_cases c).resolve_right (by omega)

theorem lower_beq (c t : Char) (ht : t.toNat < 65) : (lower c == t) = (c == t) := by
  rcases lower_cases c with e | ⟨h1, _, h3, _⟩
  · rw [e]
  · have hl : lower c ≠ t := fun h => by rw [h] at h1; omega
    have hc : c ≠ t := fun h => by rw [h] at h3; omega
    rw [beq_eq_false_iff_ne.mpr hl, beq_eq_false_iff_ne.mpr hc]

theorem lower_idem (c : Char) : lower (lower c) = lower c := by
  rcases lower_cases c with e | ⟨h1, h2, _, _⟩
  · rw [e, e]
  · rcases lower_cases (lower c) with e | ⟨_, _, h3, h4⟩
    · exact e
    · omega

theorem not_ws_of_lower (c t : Char) (h : lower c = t) (ht : cws t = false) : cws c = false := by
  cases hc : cws c with
  | false => rfl
  | true =>
    rw [lower_of_lt c (by have := cws_le c hc; omega)] at h
    rw [← h, hc] at ht
    exact absurd ht (by simp)

end T4V.CC
