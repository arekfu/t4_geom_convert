/-!
# Reading a successful run backwards

The functions of the model stop at the first error (`Except`) or failure (`Option`).  A hypothesis that a run
succeeded is taken apart here: `simp only [f, Except.bind_eq_ok_iff]` turns the `do` block of `f` into the chain of
its successful steps (`ok_of_guard` for a guard, `bind₂_eq_some` for two `Option` steps), and `mapM_cons_eq_some` does
the same for one element of a traversal (`mapM_mono`, `mapM_mem`: what a traversal depends on and where its results come
from).  `find_fst_mem` and `lookup_set`: lookup in and assignment to the association lists of the model.
-/
namespace T4V

theorem Except.bind_eq_ok_iff {ε α β} {x : Except ε α} {f : α → Except ε β} {b : β} :
    (x >>= f) = .ok b ↔ ∃ a, x = .ok a ∧ f a = .ok b := by
  cases x <;> simp [bind, Except.bind]

theorem ok_of_guard {ε α} {g : Prop} [Decidable g] {e : ε} {x : Except ε α} {v : α}
    (h : (if g then .error e else x) = .ok v) : ¬ g ∧ x = .ok v := by
  split at h
  · cases h
  · exact ⟨‹_›, h⟩

theorem bind₂_eq_some {α β γ} {x : Option α} {y : Option β} {k : α → β → γ} {c : γ} :
    (do let a ← x; let b ← y; pure (k a b)) = some c ↔ ∃ a b, x = some a ∧ y = some b ∧ c = k a b := by
  simp only [Option.bind_eq_bind, Option.pure_def, Option.bind_eq_some_iff, Option.some.injEq]
  exact ⟨fun ⟨a, ha, b, hb, h⟩ => ⟨a, b, ha, hb, h.symm⟩, fun ⟨a, b, ha, hb, h⟩ => ⟨a, ha, b, hb, h.symm⟩⟩

theorem mapM_cons_eq_some {α β} {f : α → Option β} {a : α} {l : List α} {r : List β} :
    (a :: l).mapM f = some r ↔ ∃ b, f a = some b ∧ ∃ bs, l.mapM f = some bs ∧ b :: bs = r := by
  simp only [List.mapM_cons, Option.bind_eq_bind, Option.pure_def, Option.bind_eq_some_iff,
    Option.some.injEq]

theorem mapM_mono {α β} {f g : α → Option β} : ∀ {l : List α} {r : List β},
    (∀ a ∈ l, ∀ b, f a = some b → g a = some b) → l.mapM f = some r → l.mapM g = some r
  | [], _, _, h => by simpa using h
  | a :: l, _, hfg, h => by
      obtain ⟨b, hb, bs, hbs, rfl⟩ := mapM_cons_eq_some.mp h
      exact mapM_cons_eq_some.mpr ⟨b, hfg a List.mem_cons_self b hb, bs,
        mapM_mono (fun a' ha' => hfg a' (List.mem_cons_of_mem _ ha')) hbs, rfl⟩

theorem mapM_mem {α β} (f : α → Option β) : ∀ (l : List α) (r : List β), l.mapM f = some r →
    ∀ y ∈ r, ∃ x ∈ l, f x = some y
  | [], r, h, y, hy => by simp at h; subst h; simp at hy
  | a :: l, r, h, y, hy => by
    obtain ⟨b, ha, bs, hl, rfl⟩ := mapM_cons_eq_some.mp h
    rcases List.mem_cons.mp hy with rfl | hy'
    · exact ⟨a, List.mem_cons_self, ha⟩
    · obtain ⟨x, hx, hfx⟩ := mapM_mem f l bs hl y hy'
      exact ⟨x, List.mem_cons_of_mem _ hx, hfx⟩

theorem find_fst_mem {α β} [BEq α] [LawfulBEq α] {l : List (α × β)} {a : α} {b : β}
    (h : (l.find? (·.1 == a)).map (·.2) = some b) : (a, b) ∈ l := by
  obtain ⟨⟨a', b'⟩, hf, rfl⟩ := Option.map_eq_some_iff.mp h
  have h2 := List.find?_some hf
  simp only [beq_iff_eq] at h2
  subst h2
  exact List.mem_of_find?_eq_some hf

/-- `d[k] = v` of a Python dict, then a lookup: the assignment is in place when `k` is bound, at the end when it is
not; the dictionaries of the model are instances at their key types -/
theorem lookup_set {κ β} [BEq κ] [LawfulBEq κ] [DecidableEq κ] (d : List (κ × β)) (k k' : κ) (v : β) :
    ((if d.any (·.1 == k) then d.map fun p => if p.1 == k then (k, v) else p else d ++ [(k, v)]).find?
        (·.1 == k')).map (·.2) = if k' = k then some v else (d.find? (·.1 == k')).map (·.2) := by
  split
  next hany =>
    -- `k` is bound: its entries are overwritten, the keys stay what they are
    have hkey : ((fun x : κ × β => x.1 == k') ∘ fun p => if p.1 == k then (k, v) else p) = fun p => p.1 == k' := by
      funext q; by_cases hq : q.1 = k <;> simp [hq]
    rw [List.find?_map, hkey]
    cases hf : d.find? (·.1 == k') with
    | none =>
      have hk : k' ≠ k := by
        rintro rfl
        obtain ⟨e, he, hek⟩ := List.any_eq_true.mp hany
        exact List.find?_eq_none.mp hf e he hek
      simp [hk]
    | some p =>
      have hp : p.1 = k' := by simpa using List.find?_some hf
      by_cases hk : k' = k <;> simp [hp, hk]
  next hany =>
    -- `k` is free: the new entry is found only when nothing else is
    have hno : d.find? (·.1 == k) = none :=
      List.find?_eq_none.mpr fun e he hp => hany (List.any_eq_true.mpr ⟨e, he, hp⟩)
    rw [List.find?_append]
    by_cases hk : k' = k
    · subst hk; simp [hno]
    · have : ¬ k = k' := fun h => hk h.symm
      cases d.find? (·.1 == k') <;> simp [hk, this]

end T4V
