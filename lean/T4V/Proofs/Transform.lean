import T4V.Proofs.Macro
/-!
# Rigid motions applied to surfaces: lemmas for `Props/C04`
-/
namespace T4V.Tr
open T4V.Surf
variable {α : Type} [Field α] [LinearOrder α] [IsStrictOrderedRing α] [Transc α]

/-- the matrix of a rigid motion: rows and columns orthonormal.  Six of the twelve fields suffice (`Rot.of_rows`, in
`Proofs/Rot` so that its Mathlib matrix imports stay out of this file); the columns are fields so that `toAux_toMain`
(rows) and `toMain_toAux` (columns) below are both direct `linear_combination`s -/
structure Rot (b : M3 α) : Prop where
  r11 : b.r1.dot b.r1 = 1
  r22 : b.r2.dot b.r2 = 1
  r33 : b.r3.dot b.r3 = 1
  r12 : b.r1.dot b.r2 = 0
  r13 : b.r1.dot b.r3 = 0
  r23 : b.r2.dot b.r3 = 0
  c11 : b.r1.x * b.r1.x + b.r2.x * b.r2.x + b.r3.x * b.r3.x = 1
  c22 : b.r1.y * b.r1.y + b.r2.y * b.r2.y + b.r3.y * b.r3.y = 1
  c33 : b.r1.z * b.r1.z + b.r2.z * b.r2.z + b.r3.z * b.r3.z = 1
  c12 : b.r1.x * b.r1.y + b.r2.x * b.r2.y + b.r3.x * b.r3.y = 0
  c13 : b.r1.x * b.r1.z + b.r2.x * b.r2.z + b.r3.x * b.r3.z = 0
  c23 : b.r1.y * b.r1.z + b.r2.y * b.r2.z + b.r3.y * b.r3.z = 0

/-! ### over any field: the motion and its inverse, frames, the quadratic form of `Mᵀ A M` -/

section
omit [LinearOrder α] [IsStrictOrderedRing α] [Transc α]

theorem Rot.transpose {m : M3 α} (h : Rot m) : Rot m.transpose :=
  ⟨h.c11, h.c22, h.c33, h.c12, h.c13, h.c23, h.r11, h.r22, h.r33, h.r12, h.r13, h.r23⟩

theorem trPoint_eq_toMain (m : Motion α) (q : V3 α) : trPoint m q = m.toMain q := by
  apply V3.ext' <;>
    simp only [trPoint, trVector, Motion.toMain, Motion.toMainVec, M3.mulVec, M3.transpose, V3.dot, V3.add] <;>
    ring

theorem toAux_toMain (m : Motion α) (h : Rot m.b) (q : V3 α) : m.toAux (m.toMain q) = q := by
  obtain ⟨h11, h22, h33, h12, h13, h23, -, -, -, -, -, -⟩ := h
  simp only [V3.dot] at *
  apply V3.ext' <;>
    simp only [Motion.toAux, Motion.toMain, Motion.toMainVec, M3.mulVec, M3.transpose, V3.dot, V3.add, V3.sub]
  · linear_combination q.x * h11 + q.y * h12 + q.z * h13
  · linear_combination q.x * h12 + q.y * h22 + q.z * h23
  · linear_combination q.x * h13 + q.y * h23 + q.z * h33

theorem toMain_toAux (m : Motion α) (h : Rot m.b) (p : V3 α) : m.toMain (m.toAux p) = p := by
  obtain ⟨-, -, -, -, -, -, c11, c22, c33, c12, c13, c23⟩ := h
  apply V3.ext' <;>
    simp only [Motion.toAux, Motion.toMain, Motion.toMainVec, M3.mulVec, M3.transpose, V3.dot, V3.add, V3.sub]
  · linear_combination (p.x - m.o.x) * c11 + (p.y - m.o.y) * c12 + (p.z - m.o.z) * c13
  · linear_combination (p.x - m.o.x) * c12 + (p.y - m.o.y) * c22 + (p.z - m.o.z) * c23
  · linear_combination (p.x - m.o.x) * c13 + (p.y - m.o.y) * c23 + (p.z - m.o.z) * c33

theorem dot_trVector (m : Motion α) (h : Rot m.b) (a b : V3 α) : (trVector m a).dot (trVector m b) = a.dot b := by
  obtain ⟨h11, h22, h33, h12, h13, h23, -, -, -, -, -, -⟩ := h
  simp only [V3.dot, trVector] at *
  linear_combination (a.x * b.x) * h11 + (a.y * b.y) * h22 + (a.z * b.z) * h33 + (a.x * b.y + a.y * b.x) * h12 +
    (a.x * b.z + a.z * b.x) * h13 + (a.y * b.z + a.z * b.y) * h23

/-- the coordinates of `d` along the rows of a rotation resolve `|d|²` (`dot_trVector` for `B` instead of `Bᵀ`) -/
theorem frame_resolves {b : M3 α} (h : Rot b) (d : V3 α) :
    sq (b.r1.dot d) + sq (b.r2.dot d) + sq (b.r3.dot d) = d.dot d :=
  dot_trVector ⟨d, b.transpose⟩ h.transpose d d

theorem sub_trPoint (m : Motion α) (h : Rot m.b) (p pt : V3 α) :
    p.sub (trPoint m pt) = trVector m ((m.toAux p).sub pt) := by
  have key : ∀ q, (m.toMain q).sub (trPoint m pt) = trVector m (q.sub pt) := fun q => by
    apply V3.ext' <;>
      simp only [trPoint, trVector, Motion.toMain, Motion.toMainVec, M3.mulVec, M3.transpose, V3.dot, V3.add,
        V3.sub] <;>
      ring
  rw [← key, toMain_toAux m h]

theorem frame_transport (m : Motion α) (h : Rot m.b) (s : MSurf α)
    (hk : s.kind = .p ∨ s.kind = .s ∨ s.kind = .c ∨ s.kind = .k) :
    ∃ s', transformSurf m s = some s' ∧ s'.kind = s.kind ∧ s'.compl = s.compl ∧ s'.nappe = s.nappe ∧
      s'.ax.dot s'.ax = s.ax.dot s.ax ∧ ∀ t2 p, frameF s' t2 p = frameF s t2 (m.toAux p) := by
  refine ⟨{ s with pt := trPoint m s.pt, ax := trVector m s.ax }, ?_, rfl, rfl, rfl, dot_trVector m h _ _, ?_⟩
  · rcases hk with hk | hk | hk | hk <;> simp [transformSurf, hk]
  · intro t2 p
    -- the four kinds alike; `frameF` also matches on the shape of `compl`, hence the last step
    rcases hk with hk | hk | hk | hk <;>
      simp only [frameF, hk, V3.norm2_eq, sub_trPoint m h, dot_trVector m h] <;>
      (cases s.compl with | nil => rfl | cons r rest => cases rest <;> rfl)

/-- the quadratic form of `Mᵀ A M` (`A` symmetric) at `(x, y, z, 1)`, written with the ten coefficients of
`eval_quadric`, is the quadratic form of `A` at `Y = M (x, y, z, 1)` -/
theorem mm4_quadratic_form (A M : Nat → Nat → α) (x y z y0 y1 y2 y3 : α)
    (hA : A 1 0 = A 0 1 ∧ A 2 0 = A 0 2 ∧ A 3 0 = A 0 3 ∧ A 2 1 = A 1 2 ∧ A 3 1 = A 1 3 ∧ A 3 2 = A 2 3)
    (h0 : M 0 0 * x + M 0 1 * y + M 0 2 * z + M 0 3 = y0) (h1 : M 1 0 * x + M 1 1 * y + M 1 2 * z + M 1 3 = y1)
    (h2 : M 2 0 * x + M 2 1 * y + M 2 2 * z + M 2 3 = y2) (h3 : M 3 0 * x + M 3 1 * y + M 3 2 * z + M 3 3 = y3) :
    let T := mm4 (fun i l => M l i) (mm4 A M)
    T 0 0 * (x * x) + T 1 1 * (y * y) + T 2 2 * (z * z) + T 0 1 * two * x * y + T 1 2 * two * y * z +
        T 0 2 * two * z * x + T 0 3 * two * x + T 1 3 * two * y + T 2 3 * two * z + T 3 3 =
      y0 * (A 0 0 * y0 + A 0 1 * y1 + A 0 2 * y2 + A 0 3 * y3) +
      y1 * (A 0 1 * y0 + A 1 1 * y1 + A 1 2 * y2 + A 1 3 * y3) +
      y2 * (A 0 2 * y0 + A 1 2 * y1 + A 2 2 * y2 + A 2 3 * y3) +
      y3 * (A 0 3 * y0 + A 1 3 * y1 + A 2 3 * y2 + A 3 3 * y3) := by
  obtain ⟨h10, h20, h30, h21, h31, h32⟩ := hA
  subst h0 h1 h2 h3
  simp only [mm4, two, h10, h20, h30, h21, h31, h32]
  ring

end

/-! ### cards carrying a transformation -/

/-- what is shown for a card carrying a transformation: it converts, and at every point `p` off the
surface a negative reference selects `p` iff MCNP's sense of the card **at the auxiliary coordinates of
`p`** is negative — the converted surface is the image of the untransformed one under the motion -/
def TrConverted (mn : String) (ps : List α) (m : Motion α) : Prop :=
  ∃ coll, convertCardTr (0:α) 0 mn ps m = some coll ∧
    ∀ p sm, elemSense mn ps (m.toAux p) = some sm → sm.2 ≠ 0 → collNegative coll p = some (!sm.1)

theorem TrConverted.of_same {mn : String} {ps : List α} (m : Motion α) {t : TSurf α} {g : V3 α → α}
    (hconv : convertCardTr (0:α) 0 mn ps m = some [(t, 1)]) (hsame : Same t fun p => g (m.toAux p))
    (hspec : ∀ q, elemSense mn ps q = some (smOf (g q))) : TrConverted mn ps m := by
  refine ⟨[(t, 1)], hconv, fun p sm hsm hne => ?_⟩
  rw [hspec] at hsm
  cases hsm
  exact hsame.collNegative p hne

theorem TrConverted.of_frame {mn : String} {ps : List α} {g : V3 α → α} (m : Motion α) (hR : Rot m.b)
    (h : FrameCard mn ps g) (hspec : ∀ q, elemSense mn ps q = some (smOf (g q))) : TrConverted mn ps m := by
  obtain ⟨s, c, hcad, hF, hc, hframe⟩ := h
  obtain ⟨s', hs', hk', hc', -, hax, hFt⟩ := frame_transport m hR s hF.kind
  have hF' : Framed s' := by rw [Framed, hk', hc', hax]; exact hF
  obtain ⟨t, g', ht, hg', hsame⟩ := frame_same s' hF'
  refine TrConverted.of_same m (by simp [convertCardTr, hcad, hs', ht]) (hsame.scale c hc fun p => ?_) hspec
  exact Option.some.inj ((hg' p).symm.trans ((hFt 0 p).trans (hframe _)))

omit [Transc α] in
/-- one `q'` for all points (`C04.quadric_transport` states it at a single point) -/
theorem quad_transport_all (a b c d e f g h j k : α) (m : Motion α) :
    ∃ q', transformQuad [a, b, c, d, e, f, g, h, j, k] m = some q' ∧ q'.length = 10 ∧
      ∀ p, evalQuadric q' p = evalQuadric [a, b, c, d, e, f, g, h, j, k] (m.toAux p) := by
  -- `Y` is left to be what the rows of `R·Q` give; what remains is the card's quadric at `Y`, the auxiliary
  -- coordinates
  refine ⟨_, rfl, rfl, fun p => congrArg some ((mm4_quadratic_form _ _ p.x p.y p.z _ _ _ _
    ⟨rfl, rfl, rfl, rfl, rfl, rfl⟩ rfl rfl rfl rfl).trans ?_)⟩
  simp only [Motion.toAux, M3.mulVec, V3.dot, V3.sub, mm4, half, two]
  ring

/-- cards that become a quadric: the ten coefficients go through `transformation_quad` and are written as `QUAD` -/
theorem TrConverted.of_quad (m : Motion α) {mn : String} {ps : List α} (a b c d e f g h j k : α)
    (hconv : convertCardTr (0:α) 0 mn ps m =
      (transformQuad [a, b, c, d, e, f, g, h, j, k] m).map fun q' => [({ kind := .quad, ps := q' }, 1)])
    {gs : V3 α → α} (hspec : ∀ q, elemSense mn ps q = some (smOf (gs q)))
    (hg : ∀ q, evalQuadric [a, b, c, d, e, f, g, h, j, k] q = some (gs q)) : TrConverted mn ps m := by
  obtain ⟨q', hq, hl, he⟩ := quad_transport_all a b c d e f g h j k m
  exact TrConverted.of_same m (t := { kind := .quad, ps := q' }) (by rw [hconv, hq]; rfl)
    ⟨1, one_pos, fun p => by rw [quad_f q' hl p, he p, hg, one_mul]⟩ hspec

end T4V.Tr
