import T4V.Proofs.Transform
import Mathlib.LinearAlgebra.Matrix.NonsingularInverse
import Mathlib.LinearAlgebra.Matrix.Notation
/-!
# Rotation matrices (`Tr.Rot`, defined in `Proofs/Transform`): rows orthonormal ⇒ columns orthonormal; completion of a
matrix by a vector product; a unit vector passes `renorm` unchanged (what `adjust_matrix` does to a rotation)
-/
namespace T4V.Tr
open Matrix
variable {α : Type} [Field α]

def toMat (b : M3 α) : Matrix (Fin 3) (Fin 3) α :=
  !![b.r1.x, b.r1.y, b.r1.z; b.r2.x, b.r2.y, b.r2.z; b.r3.x, b.r3.y, b.r3.z]

/-- rows orthonormal ⇒ `Rot` (a left inverse of a square matrix is a right inverse) -/
theorem Rot.of_rows (b : M3 α)
    (h11 : b.r1.dot b.r1 = 1) (h22 : b.r2.dot b.r2 = 1) (h33 : b.r3.dot b.r3 = 1)
    (h12 : b.r1.dot b.r2 = 0) (h13 : b.r1.dot b.r3 = 0) (h23 : b.r2.dot b.r3 = 0) : Rot b := by
  have hM : toMat b * (toMat b)ᵀ = 1 := by
    simp only [V3.dot] at *
    ext i j
    -- entry `(i, j)` becomes `row i · row j = δ i j`: the hypothesis itself on and above the diagonal, with the factors
    -- of each product swapped below it
    fin_cases i <;> fin_cases j <;>
      simp [toMat, Matrix.mul_apply, Fin.sum_univ_three]
    · exact h11
    · exact h12
    · exact h13
    · linear_combination h12
    · exact h22
    · exact h23
    · linear_combination h13
    · linear_combination h23
    · exact h33
  -- hence `(toMat b)ᵀ * toMat b = 1`, whose entries are the column relations
  have hT := mul_eq_one_comm.mp hM
  have e := fun i j => congrFun (congrFun hT i) j
  have e00 := e 0 0; have e11 := e 1 1; have e22 := e 2 2; have e01 := e 0 1; have e02 := e 0 2; have e12 := e 1 2
  simp [toMat, Matrix.mul_apply, Fin.sum_univ_three] at e00 e11 e22 e01 e02 e12
  exact ⟨h11, h22, h33, h12, h13, h23, e00, e11, e22, e01, e02, e12⟩

theorem det3_transpose (m : M3 α) : det3 m.transpose = det3 m := by
  simp only [det3, M3.transpose, V3.dot, V3.cross]; ring

theorem cross_completion (a b : V3 α) (haa : a.dot a = 1) (hbb : b.dot b = 1) (hab : a.dot b = 0) :
    (Rot ⟨a, b, a.cross b⟩ ∧ det3 ⟨a, b, a.cross b⟩ = 1) ∧
    (Rot ⟨a.cross b, a, b⟩ ∧ det3 ⟨a.cross b, a, b⟩ = 1) ∧
    (Rot ⟨b, a.cross b, a⟩ ∧ det3 ⟨b, a.cross b, a⟩ = 1) := by
  have hcc : (a.cross b).dot (a.cross b) = 1 := by
    rw [V3.cross_dot_cross, haa, hbb, hab]; ring
  have hca := V3.cross_dot_left a b
  have hcb := V3.cross_dot_right a b
  have hac := (V3.dot_comm a _).trans hca
  have hbc := (V3.dot_comm b _).trans hcb
  have hba := (V3.dot_comm b a).trans hab
  -- each determinant is the triple product `(a × b)·(a × b)` read cyclically
  exact ⟨⟨Rot.of_rows _ haa hbb hcc hab hac hbc, ((V3.triple_cycle a b _).trans (V3.triple_cycle b _ a)).trans hcc⟩,
    ⟨Rot.of_rows _ hcc haa hbb hca hcb hab, hcc⟩,
    ⟨Rot.of_rows _ hbb hcc haa hbc hba hca, (V3.triple_cycle b _ a).trans hcc⟩⟩

/-- in a proper rotation the first row is the vector product of the two that follow it (the other rows: shift the rows,
`det3` does not change) -/
theorem row_is_cross (m : M3 α) (hR : Rot m) (hdet : det3 m = 1) : m.r2.cross m.r3 = m.r1 := by
  obtain ⟨-, -, -, -, -, -, c11, c22, c33, c12, c13, c23⟩ := hR
  simp only [det3, V3.dot, V3.cross] at hdet
  apply V3.ext' <;> simp only [V3.cross]
  -- component `j`: `r1.j · (det − 1)` minus the components of `r2 × r3` times the column relations `c1j`, `c2j`, `c3j`
  · linear_combination (-(m.r2.y * m.r3.z - m.r2.z * m.r3.y)) * c11 - (m.r3.x * m.r2.z - m.r2.x * m.r3.z) * c12
      - (m.r2.x * m.r3.y - m.r2.y * m.r3.x) * c13 + m.r1.x * hdet
  · linear_combination (-(m.r2.y * m.r3.z - m.r2.z * m.r3.y)) * c12 - (m.r3.x * m.r2.z - m.r2.x * m.r3.z) * c22
      - (m.r2.x * m.r3.y - m.r2.y * m.r3.x) * c23 + m.r1.y * hdet
  · linear_combination (-(m.r2.y * m.r3.z - m.r2.z * m.r3.y)) * c13 - (m.r3.x * m.r2.z - m.r2.x * m.r3.z) * c23
      - (m.r2.x * m.r3.y - m.r2.y * m.r3.x) * c33 + m.r1.z * hdet

variable [LinearOrder α] [IsStrictOrderedRing α] [Transc α]

theorem sqrt_one (ok : Surf.TranscOK α) : Transc.sqrt (1:α) = 1 :=
  (mul_self_eq_one_iff.mp (ok.sqrt_sq 1 zero_le_one)).resolve_right fun h =>
    (neg_one_lt_zero.trans (ok.sqrt_pos 1 one_pos)).ne' h

theorem renorm_unit (ok : Surf.TranscOK α) (v : V3 α) (h : v.dot v = 1) : renorm? v = some v := by
  have h0 : ((1:α) == 0) = false := by simp
  simp only [renorm?, h, sqrt_one ok, h0, Bool.false_eq_true, if_false, div_one, V3.smul, one_mul]

end T4V.Tr
