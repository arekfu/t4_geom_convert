import T4V.Proofs.PostDen
/-!
# After `remove_empty_volumes` and `remove_unused_volumes` no reference to a deleted volume is left

The loop of `remove_empty_volumes` ends because every round after the first deletes at least one volume; its fuel
(`length + 2`) is therefore never exhausted with a non-empty queue.
-/
namespace T4V

theorem closed_iff {vs : List (Nat × Vol)} :
    Closed vs ↔ ∀ p ∈ vs, ∀ op ids, p.2.ops = some (op, ids) → ∀ k ∈ ids, hasKey vs k := by
  unfold Closed idsOf
  constructor
  · intro h p hp op ids ho k hk
    exact h p hp k (by simpa [ho] using hk)
  · intro h p hp r hr
    cases ho : p.2.ops with
    | none => simp [ho] at hr
    | some x => exact h p hp x.1 x.2 ho r (by simpa [ho] using hr)

/-- every reference is to a present key or to a deleted one -/
def RefsIn (vs : List (Nat × Vol)) (removed : List Nat) : Prop :=
  ∀ p ∈ vs, ∀ r ∈ idsOf p.2, hasKey vs r ∨ r ∈ removed

/-- `R`, `acc.2` as in `roundStep_inv` -/
theorem refsIn_roundStep (u : Nat × Nat) (R : List Nat) (acc : List (Nat × Vol) × List Nat) (k : Nat)
    (h : RefsIn acc.1 (R ++ acc.2)) : RefsIn (roundStep u acc k).1 (R ++ (roundStep u acc k).2) := by
  apply roundStep_cases u acc k (P := fun a => RefsIn a.1 (R ++ a.2))
  · exact fun _ => h
  · intro v hg _ p hp r hr
    have hr' : r ∈ idsOf p.2 ∧ p ∈ acc.1 ∨ r ∈ idsOf v := by
      rcases mem_updAt hp with hp' | rfl
      · exact Or.inl ⟨hr, hp'⟩
      · exact Or.inr (by simpa [idsOf] using hr)
    have := hr'.elim (fun h' => h p h'.2 r h'.1) (h (k, v) (find_fst_mem hg) r)
    exact this.imp hasKey_updAt.mpr id
  · intro v _ _ p hp r hr
    rw [← List.append_assoc]
    rcases h p (List.mem_filter.mp hp).1 r hr with h1 | h1
    · by_cases hrk : r = k
      · exact Or.inr (by simp [hrk])
      · exact Or.inl (hasKey_delKey.mpr ⟨hrk, h1⟩)
    · exact Or.inr (List.mem_append_left _ h1)

/-- what `afterRound` establishes for the next loop head -/
structure CInv (vs : List (Nat × Vol)) (queue removed : List Nat) : Prop where
  refs : RefsIn vs removed
  unions : ∀ p ∈ vs, isUnion p.2 = true → ∀ r ∈ idsOf p.2, r ∉ removed
  inters : ∀ p ∈ vs, isUnion p.2 = false → (∃ r ∈ idsOf p.2, r ∈ removed) → p.1 ∈ queue

theorem closed_of_cinv {vs : List (Nat × Vol)} {removed : List Nat} (h : CInv vs [] removed) : Closed vs := by
  intro p hp r hr
  rcases h.refs p hp r hr with h1 | h1
  · exact h1
  · exfalso
    by_cases hu : isUnion p.2 = true
    · exact h.unions p hp hu r hr h1
    · have := h.inters p hp (by simpa using hu) ⟨r, hr, h1⟩
      simp at this

theorem afterRound_cinv (vs : List (Nat × Vol)) (removed : List Nat) (h : RefsIn vs removed) :
    CInv (afterRound vs removed).1 (afterRound vs removed).2 removed := by
  have hmem : ∀ p ∈ (afterRound vs removed).1, ∃ q ∈ vs, p = (q.1, dropRemoved removed q.2) := by
    intro p hp
    rw [afterRound_fst] at hp
    obtain ⟨q, hq, rfl⟩ := List.mem_map.mp hp
    exact ⟨q, hq, rfl⟩
  refine ⟨fun p hp r hr => ?_, fun p hp hu r hr => ?_, fun p hp hu ⟨r, hr, hrem⟩ => ?_⟩
  · obtain ⟨q, hq, rfl⟩ := hmem p hp
    exact (h q hq r (mem_idsOf_dropRemoved.mp hr).1).imp hasKey_afterRound.mpr id
  · obtain ⟨q, hq, rfl⟩ := hmem p hp
    exact (mem_idsOf_dropRemoved.mp hr).2 (isUnion_of_dropRemoved hu)
  · -- an operand that is left and was removed: `p` is no union, so it is queued
    obtain ⟨q, hq, rfl⟩ := hmem p hp
    obtain ⟨hr', hnu⟩ := mem_idsOf_dropRemoved.mp hr
    have hqu : isUnion q.2 = false := by
      cases hu' : isUnion q.2 with
      | false => rfl
      | true => exact absurd hrem (hnu hu')
    exact mem_afterRound_snd.mpr ⟨q.2, hq, hqu, r, hr', hrem⟩

/-! ## the loop ends with an empty queue -/

theorem length_delKey_lt {vs : List (Nat × Vol)} {k : Nat} (h : hasKey vs k) : (delKey vs k).length < vs.length := by
  obtain ⟨p, hp, rfl⟩ := h
  refine Nat.lt_of_le_of_ne (List.length_filter_le _ _) fun e => ?_
  simpa using List.length_filter_eq_length_iff.mp e p hp

theorem length_roundStep_le (u : Nat × Nat) (acc : List (Nat × Vol) × List Nat) (k : Nat) :
    (roundStep u acc k).1.length ≤ acc.1.length :=
  roundStep_cases u acc k (P := fun a => a.1.length ≤ acc.1.length) (fun _ => Nat.le_refl _)
    (fun _ _ _ => by simp [updAt]) (fun _ _ _ => List.length_filter_le _ _)

theorem length_fold_le (u : Nat × Nat) (q : List Nat) (acc : List (Nat × Vol) × List Nat) :
    (q.foldl (roundStep u) acc).1.length ≤ acc.1.length :=
  List.foldlRecOn q (roundStep u) (motive := fun a => a.1.length ≤ acc.1.length) (Nat.le_refl _)
    fun a ih k _ => Nat.le_trans (length_roundStep_le u a k) ih

theorem length_round_lt (u : Nat × Nat) (q : List Nat) (vs : List (Nat × Vol)) (hq : q ≠ [])
    (hpre : ∀ k ∈ q, ∃ v, dictGet? vs k = some v ∧ isUnion v = false) :
    (removeEmptyRound u vs q).1.length < vs.length := by
  rw [removeEmptyRound_eq]
  cases q with
  | nil => exact absurd rfl hq
  | cons k rest =>
    simp only [List.foldl_cons]
    obtain ⟨v, hv, hu⟩ := hpre k List.mem_cons_self
    have h1 : (roundStep u (vs, []) k).1.length < vs.length :=
      roundStep_cases u (vs, []) k (P := fun a => a.1.length < vs.length)
        (fun hg => by rw [hv] at hg; cases hg)
        (fun w hg hw => by rw [hv] at hg; cases hg; rw [hu] at hw; cases hw)
        (fun _ _ _ => length_delKey_lt (dictGet?_some_hasKey hv))
    exact Nat.lt_of_le_of_lt (length_fold_le u rest _) h1

/-- **`remove_empty_volumes` leaves no dangling reference** -/
theorem removeEmpty_closed (u : Nat × Nat) (vols : List (Nat × Vol)) (hc : Closed vols) (hnd : KeysNodup vols) :
    Closed (removeEmpty u vols) ∧ KeysNodup (removeEmpty u vols) := by
  -- variant: the first round may only neutralise unions; every later round deletes a queued intersection
  obtain ⟨fuel', q', removed', ⟨hinv, hnd', hvar⟩, hex⟩ := loop_rule u
    (I := fun fuel vs q removed => CInv vs q removed ∧ KeysNodup vs ∧
      (vs.length + 2 ≤ fuel ∨
        vs.length < fuel ∧ ∀ k ∈ q, ∃ v, dictGet? vs k = some v ∧ isUnion v = false))
    (fun fuel vs q removed ⟨hinv, hnd, hvar⟩ hq => by
      have hrefs := round_rule u (P := fun acc => RefsIn acc.1 (removed ++ acc.2)) vs q (by simpa using hinv.refs)
        fun acc k _ => refsIn_roundStep u removed acc k
      have hnd₁ := keysNodup_round u vs q hnd
      have hle : (removeEmptyRound u vs q).1.length ≤ vs.length := by
        rw [removeEmptyRound_eq]
        exact length_fold_le u q (vs, [])
      refine ⟨afterRound_cinv _ _ hrefs, afterRound_fst _ _ ▸ hnd₁.map_snd _, Or.inr ⟨?_, fun k hk =>
        (queue_pre_afterRound _ _ hnd₁ k hk).imp fun _ h => ⟨h.1, h.2.1⟩⟩⟩
      rw [afterRound_fst, List.length_map]
      rcases hvar with h | ⟨h, hpre⟩
      · omega
      · have := length_round_lt u q vs hq hpre
        omega)
    (vols.length + 2) vols ((vols.filter (·.2.empty)).map (·.1)) []
    ⟨⟨fun p hp r hr => Or.inl (hc p hp r hr), fun _ _ _ _ _ h => by simp at h, fun _ _ _ ⟨_, _, h⟩ => by simp at h⟩,
      hnd, Or.inl (Nat.le_refl _)⟩
  refine ⟨?_, hnd'⟩
  rcases hex with rfl | rfl
  · omega
  · exact closed_of_cinv hinv

theorem removeUnused_closed (vols : List (Nat × Vol)) (hc : Closed vols) : Closed (removeUnused vols) := by
  rw [removeUnused_eq]
  intro p hp r hr
  have hp' := (List.mem_filter.mp hp).1
  obtain ⟨q, hq, hqr⟩ := hc p hp' r hr
  refine ⟨q, List.mem_filter.mpr ⟨hq, ?_⟩, hqr⟩
  have : r ∈ usedIds vols := List.mem_flatMap.mpr ⟨p, hp', hr⟩
  simp [keepP, hqr, this]

theorem closed_renumber (ren : List (Nat × Nat)) (vols : List (Nat × Vol)) (hc : Closed vols) :
    Closed (renumberVols ren vols) := by
  intro p hp r hr
  unfold renumberVols at hp
  rw [List.mem_map] at hp
  obtain ⟨q, hq, rfl⟩ := hp
  have hr' : r ∈ idsOf q.2 := by simpa [idsOf, renumVol] using hr
  exact (hasKey_map_snd (renumVol ren)).mpr (hc q hq r hr')

theorem den_of_den'_closed (vs : List (Nat × Vol)) (σ : TSense) (hc : Closed vs) :
    ∀ f k b, hasKey vs k → den' vs σ f k = some b → den vs σ f k = some b := by
  intro f
  induction f with
  | zero => intro k b _ h; simp [den'] at h
  | succ f ih =>
    intro k b hk h
    obtain ⟨v, hv⟩ := hasKey_of_dictGet?.mp hk
    rw [den'_succ, hv] at h
    rw [den_succ, hv]
    exact evalVol_mono (fun r hr br => ih r br (hc (k, v) (find_fst_mem hv) r hr)) h

theorem postProcess_closed (dedup : Bool) (surfs : List (Nat × String)) (u : Nat × Nat) (vols : List (Nat × Vol))
    (hc : Closed vols) (hnd : KeysNodup vols) : Closed (postProcess dedup surfs u vols).2 :=
  postProcess_cases dedup surfs u vols (P := Closed) (removeUnused_closed _ (removeEmpty_closed u vols hc hnd).1)
    fun ren _ => removeUnused_closed _
      (removeEmpty_closed _ _ (closed_renumber ren vols hc) (hnd.map_snd _)).1

end T4V
