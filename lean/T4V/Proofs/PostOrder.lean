import T4V.Proofs.Post
/-!
# `remove_empty_volumes` does not depend on the order of its queue or on how the removed keys are held

In the code `to_remove` is a list in dictionary order and is iterated as such; `removed` is a set that is only tested
for membership.  In the model both are lists; here: permuting the queue and replacing the list of removed keys by any
list with the same members does not change the resulting dictionary.  Nothing in the code varies this way: the
statement is one of robustness.
-/
namespace T4V

/-- same dictionary, same removed keys up to order -/
def AccEq (a b : List (Nat × Vol) × List Nat) : Prop := a.1 = b.1 ∧ a.2.Perm b.2

theorem AccEq.refl (a : List (Nat × Vol) × List Nat) : AccEq a a := ⟨rfl, List.Perm.refl _⟩

theorem AccEq.trans {a b c : List (Nat × Vol) × List Nat} (h₁ : AccEq a b) (h₂ : AccEq b c) : AccEq a c :=
  ⟨h₁.1.trans h₂.1, h₁.2.trans h₂.2⟩

theorem roundStep_congr (u : Nat × Nat) {a b : List (Nat × Vol) × List Nat} (h : AccEq a b) (k : Nat) :
    AccEq (roundStep u a k) (roundStep u b k) := by
  unfold roundStep stepWith
  rw [h.1]
  split
  · exact h
  · split
    · exact ⟨rfl, h.2⟩
    · exact ⟨rfl, h.2.append_right [k]⟩

theorem updAt_updAt_comm (vs : List (Nat × Vol)) {j k : Nat} (hne : j ≠ k) (vj vk : Vol) :
    updAt (updAt vs j vj) k vk = updAt (updAt vs k vk) j vj := by
  unfold updAt
  rw [List.map_map, List.map_map]
  congr 1
  funext p
  by_cases hj : p.1 = j
  · simp [hj, hne]
  · by_cases hk : p.1 = k
    · simp [hk, Ne.symm hne]
    · simp [hj, hk]

theorem delKey_updAt_comm (vs : List (Nat × Vol)) (j k : Nat) (vj : Vol) :
    delKey (updAt vs j vj) k = updAt (delKey vs k) j vj := by
  unfold delKey updAt
  rw [List.filter_map]
  congr 2
  funext p
  by_cases hj : p.1 = j <;> simp [hj]

theorem delKey_delKey_comm (vs : List (Nat × Vol)) (j k : Nat) :
    delKey (delKey vs j) k = delKey (delKey vs k) j := by
  unfold delKey
  rw [List.filter_filter, List.filter_filter]
  congr 1
  funext p
  exact Bool.and_comm _ _

theorem dictGet?_stepWith_ne (u : Nat × Nat) (ov : Option Vol) (acc : List (Nat × Vol) × List Nat) {j k : Nat}
    (hne : j ≠ k) : dictGet? (stepWith u ov acc k).1 j = dictGet? acc.1 j := by
  unfold stepWith
  split
  · rfl
  · split
    · exact dictGet?_updAt_ne hne
    · exact dictGet?_delKey_ne hne

theorem roundStep_comm (u : Nat × Nat) (acc : List (Nat × Vol) × List Nat) (j k : Nat) :
    AccEq (roundStep u (roundStep u acc j) k) (roundStep u (roundStep u acc k) j) := by
  by_cases hjk : j = k
  · subst hjk; exact AccEq.refl _
  have hkj : k ≠ j := fun e => hjk e.symm
  -- each step finds under its key what it would have found had it come first
  unfold roundStep
  rw [dictGet?_stepWith_ne u _ acc hkj, dictGet?_stepWith_ne u _ acc hjk]
  obtain ⟨vs, rm⟩ := acc
  cases dictGet? vs j with
  | none => exact AccEq.refl _
  | some vj =>
    cases dictGet? vs k with
    | none => exact AccEq.refl _
    | some vk =>
      unfold stepWith
      by_cases huj : isUnion vj = true <;> by_cases huk : isUnion vk = true <;> simp only [huj, huk, if_true]
      · exact ⟨updAt_updAt_comm vs hjk _ _, List.Perm.refl _⟩
      · exact ⟨delKey_updAt_comm vs j k _, List.Perm.refl _⟩
      · exact ⟨(delKey_updAt_comm vs k j _).symm, List.Perm.refl _⟩
      · refine ⟨delKey_delKey_comm vs j k, ?_⟩
        show (rm ++ [j] ++ [k]).Perm (rm ++ [k] ++ [j])
        simp only [List.append_assoc]
        exact List.Perm.append_left rm (List.Perm.swap k j [])

theorem fold_perm (u : Nat × Nat) {q₁ q₂ : List Nat} (hq : q₁.Perm q₂) :
    ∀ {a b : List (Nat × Vol) × List Nat}, AccEq a b →
      AccEq (q₁.foldl (roundStep u) a) (q₂.foldl (roundStep u) b) := by
  induction hq using List.Perm.recOnSwap' with
  | nil => intro a b h; exact h
  | cons x _ ih => intro a b h; simp only [List.foldl_cons]; exact ih (roundStep_congr u h x)
  | swap' x y _ ih =>
    intro a b h
    simp only [List.foldl_cons]
    exact ih ((roundStep_comm u a y x).trans (roundStep_congr u (roundStep_congr u h x) y))
  | trans _ _ ih₁ ih₂ => intro a b h; exact (ih₁ h).trans (ih₂ (AccEq.refl b))

theorem afterRound_congr (vs : List (Nat × Vol)) {r₁ r₂ : List Nat} (h : ∀ k, k ∈ r₁ ↔ k ∈ r₂) :
    afterRound vs r₁ = afterRound vs r₂ := by
  have hc : ∀ k, r₁.contains k = r₂.contains k := by
    intro k
    by_cases h1 : k ∈ r₁
    · have h2 := (h k).mp h1
      simp [h1, h2]
    · have h2 : k ∉ r₂ := fun e => h1 ((h k).mpr e)
      simp [h1, h2]
  unfold afterRound
  simp only [hc]

theorem loop_order_independent (u : Nat × Nat) : ∀ (fuel : Nat) (vs : List (Nat × Vol)) (q₁ q₂ r₁ r₂ : List Nat),
    q₁.Perm q₂ → (∀ k, k ∈ r₁ ↔ k ∈ r₂) →
    removeEmpty.loop u fuel vs q₁ r₁ = removeEmpty.loop u fuel vs q₂ r₂
  | 0, _, _, _, _, _, _, _ => rfl
  | fuel + 1, vs, q₁, q₂, r₁, r₂, hq, hr => by
      unfold removeEmpty.loop
      rw [hq.isEmpty_eq]
      by_cases hemp : q₂.isEmpty = true
      · simp [hemp]
      · simp only [hemp, Bool.false_eq_true, if_false]
        rw [removeEmptyRound_eq, removeEmptyRound_eq]
        obtain ⟨h1, h2⟩ := fold_perm u hq (AccEq.refl (vs, ([] : List Nat)))
        have hmem : ∀ k, k ∈ r₁ ++ (q₁.foldl (roundStep u) (vs, [])).2 ↔
            k ∈ r₂ ++ (q₂.foldl (roundStep u) (vs, [])).2 := by
          intro k
          simp only [List.mem_append, hr k, h2.mem_iff]
        simp only [h1, afterRound_congr _ hmem]
        exact loop_order_independent u fuel _ _ _ _ _ (List.Perm.refl _) hmem

end T4V
