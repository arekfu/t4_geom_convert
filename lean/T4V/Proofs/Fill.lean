import T4V.Model.Fill
import T4V.Proofs.Bind
/-!
# `pot_fill`: the cells it generates, one at a time
-/
namespace T4V

/-- **induction over the cells `pot_fill` generates**: a generated cell is an unfilled cell itself, or a cell
generated from a member `e` of the filling universe, wrapped into the container -/
theorem fillCells_induct (cells : List FCell) {motive : FCell → FLeaf → Prop}
    (leaf : ∀ c : FCell, c.fill = none →
      motive c { base := c.id, path := [], origin := [], mat := c.mat, rho := c.rho })
    (wrap : ∀ (c e : FCell) (l : FLeaf), c.fill = some e.univ → e ∈ cells → motive e l → motive c (l.wrap c)) :
    ∀ (fuel : Nat) (c : FCell) (leaves : List FLeaf), fillCells cells fuel c = some leaves →
      ∀ l ∈ leaves, motive c l
  | 0, _, _, h => by simp [fillCells] at h
  | fuel + 1, c, leaves, h => by
      intro l hl
      unfold fillCells at h
      cases hf : c.fill with
      | none =>
        simp only [hf, Option.some.injEq] at h
        subst h
        cases List.mem_singleton.mp hl
        exact leaf c hf
      | some u =>
        simp only [hf, Option.map_eq_some_iff] at h
        obtain ⟨ls, hls, rfl⟩ := h
        obtain ⟨l', hl', rfl⟩ := List.mem_map.mp hl
        obtain ⟨le, hle', hmem⟩ := List.mem_flatten.mp hl'
        obtain ⟨e, he, hle⟩ := mapM_mem _ _ ls hls le hle'
        obtain ⟨hec, heu⟩ := List.mem_filter.mp he
        have hu : u = e.univ := (beq_iff_eq.mp heu).symm
        exact wrap c e l' (hu ▸ hf) hec (fillCells_induct cells leaf wrap fuel e le hle l' hmem)

/-- the counting step of `C05.located_in_exactly_one`: if every member contributes one hit or none, the hits in the
flattened result are as many as the members that contribute -/
theorem count_flatten {f : FCell → Option (List FLeaf)} (pred : FLeaf → Bool) (g : FCell → Bool) :
    ∀ (es : List FCell) (ls : List (List FLeaf)), es.mapM f = some ls →
      (∀ e ∈ es, ∀ l, f e = some l → (l.filter pred).length = if g e then 1 else 0) →
      (ls.flatten.filter pred).length = (es.filter g).length
  | [], ls, h, _ => by
      simp only [List.mapM_nil, pure, Option.some.injEq] at h
      subst h; rfl
  | e :: es, ls, h, hall => by
      obtain ⟨l, hl, rest, hrest, rfl⟩ := mapM_cons_eq_some.mp h
      have ih := count_flatten pred g es rest hrest (fun e' he' => hall e' (List.mem_cons_of_mem _ he'))
      have h1 := hall e (List.mem_cons_self) l hl
      simp only [List.flatten_cons, List.filter_append, List.length_append, ih, h1, List.filter_cons]
      -- one more hit exactly when `e` contributes
      by_cases hg : g e = true
      · simp only [hg, if_true, List.length_cons]; omega
      · simp [hg]

end T4V
