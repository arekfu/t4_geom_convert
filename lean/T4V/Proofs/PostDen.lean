import T4V.Proofs.Post
/-!
# The post-processing preserves what the surviving volumes denote, keeps the keys unique and adds none

`den'` reads a reference to a key that is not in the dictionary as the empty volume.  With this reading every single
step of `remove_empty_volumes` keeps the denotation of every key (a deleted one denoted ∅), so the loop does; on a
dictionary without dangling references `den'` is `den`.  Renumbering is added at the end (`postProcess_den'`) for a
sense assignment that agrees on merged surfaces.  Along the way: the keys stay unique, and no pass creates a key or
touches a `fictive` flag (`Shrinks`).
-/
namespace T4V

/-- like `den`, a missing key denoting the empty volume -/
def den' (vols : List (Nat × Vol)) (σ : TSense) : Nat → Nat → Option Bool
  | 0, _ => none
  | f + 1, k =>
    match dictGet? vols k with
    | none => some false
    | some v =>
      match v.ops with
      | none => some (equa σ v)
      | some (op, ids) => (ids.mapM (den' vols σ f)).map (combine op (equa σ v))

def Denotes' (vols : List (Nat × Vol)) (σ : TSense) (k : Nat) (b : Bool) : Prop := ∃ f, den' vols σ f k = some b

theorem den'_succ (vols : List (Nat × Vol)) (σ : TSense) (f k : Nat) :
    den' vols σ (f + 1) k = ((dictGet? vols k).map (evalVol σ (den' vols σ f))).getD (some false) := by
  rw [den']
  cases dictGet? vols k <;> rfl

theorem den_imp_den' (vols : List (Nat × Vol)) (σ : TSense) :
    ∀ f k b, den vols σ f k = some b → den' vols σ f k = some b := by
  intro f
  induction f with
  | zero => intro k b h; simp [den] at h
  | succ f ih =>
    intro k b h
    rw [den_succ] at h
    obtain ⟨v, hv, hb⟩ := Option.bind_eq_some_iff.mp h
    rw [den'_succ, hv]
    exact evalVol_mono (fun j _ => ih j) hb

theorem den'_transfer {vs vs' : List (Nat × Vol)} {σ : TSense}
    (hstep : ∀ f, (∀ j b, den' vs σ f j = some b → den' vs' σ f j = some b) →
      ∀ j b, den' vs σ (f + 1) j = some b → den' vs' σ (f + 1) j = some b) :
    ∀ f j b, den' vs σ f j = some b → den' vs' σ f j = some b := by
  intro f
  induction f with
  | zero => intro j b h; simp [den'] at h
  | succ f ih => exact hstep f ih

theorem mapM_some_length {α β} {f : α → Option β} : ∀ {l : List α} {r : List β}, l.mapM f = some r → r.length = l.length
  | [], r, h => by simp at h; subst h; rfl
  | a :: as, r, h => by
      obtain ⟨b, -, bs, hbs, rfl⟩ := mapM_cons_eq_some.mp h
      simp [mapM_some_length hbs]

theorem den'_updAt {vs : List (Nat × Vol)} {σ : TSense} {k : Nat} {v v' : Vol} (hk : dictGet? vs k = some v)
    (hops : v'.ops = v.ops) (heq : equa σ v' = equa σ v) :
    ∀ f j b, den' vs σ f j = some b → den' (updAt vs k v') σ f j = some b := by
  apply den'_transfer
  intro f ih j b h
  rw [den'_succ] at h ⊢
  by_cases hj : j = k
  · subst hj
    rw [dictGet?_updAt_self hk]
    rw [hk] at h
    exact evalVol_mono (fun j _ => ih j) (evalVol_congr _ hops heq ▸ h)
  · -- another key: the same entry on both sides
    rw [dictGet?_updAt_ne hj]
    cases hg : dictGet? vs j with
    | none => simpa [hg] using h
    | some w => rw [hg] at h; exact evalVol_mono (fun j _ => ih j) h

/-- whatever `k` denotes under `den'` is ∅ -/
def Dead' (vs : List (Nat × Vol)) (σ : TSense) (k : Nat) : Prop := ∀ f b, den' vs σ f k = some b → b = false

theorem den'_delKey {vs : List (Nat × Vol)} {σ : TSense} {k : Nat} (hd : Dead' vs σ k) :
    ∀ f j b, den' vs σ f j = some b → den' (delKey vs k) σ f j = some b := by
  apply den'_transfer
  intro f ih j b h
  by_cases hj : j = k
  · subst hj
    rw [hd _ _ h, den'_succ, dictGet?_delKey_self]
    rfl
  · -- another key: the same entry on both sides
    rw [den'_succ] at h ⊢
    rw [dictGet?_delKey_ne hj]
    cases hg : dictGet? vs j with
    | none => simpa [hg] using h
    | some w => rw [hg] at h; exact evalVol_mono (fun j _ => ih j) h

theorem den'_of_not_hasKey {vs : List (Nat × Vol)} {σ : TSense} {r : Nat} (h : ¬ hasKey vs r) (f : Nat) :
    den' vs σ (f + 1) r = some false := by
  rw [den'_succ, dictGet?_none_iff.mpr h]
  rfl

theorem dead_of_not_hasKey {vs : List (Nat × Vol)} {σ : TSense} {r : Nat} (h : ¬ hasKey vs r) : Dead' vs σ r
  | 0, _, hb => by simp [den'] at hb
  | f + 1, _, hb => by rw [den'_of_not_hasKey h] at hb; cases hb; rfl

theorem mapM_filter_any {F F' : Nat → Option Bool} (removed : List Nat)
    (hdead : ∀ r, r ∈ removed → ∀ b, F r = some b → b = false) (hFF' : ∀ j b, F j = some b → F' j = some b) :
    ∀ (ids : List Nat) (bs : List Bool), ids.mapM F = some bs →
      ∃ bs', (ids.filter (!removed.contains ·)).mapM F' = some bs' ∧ bs'.any id = bs.any id
  | [], bs, h => by
      simp only [List.mapM_nil, Option.pure_def, Option.some.injEq] at h
      subst h; exact ⟨[], rfl, rfl⟩
  | a :: as, bs, h => by
      obtain ⟨b, hfa, r', hr, rfl⟩ := mapM_cons_eq_some.mp h
      obtain ⟨bs', hbs', hany⟩ := mapM_filter_any removed hdead hFF' as r' hr
      by_cases hrem : removed.contains a = true
      · have hb : b = false := hdead a (by simpa using hrem) b hfa
        refine ⟨bs', ?_, by simp [hb, hany]⟩
        simpa only [List.filter_cons, hrem, Bool.not_true, Bool.false_eq_true, if_false] using hbs'
      · have hrem' : removed.contains a = false := by simpa using hrem
        refine ⟨b :: bs', ?_, by simp [hany]⟩
        simp only [List.filter_cons, hrem', Bool.not_false, if_true]
        exact mapM_cons_eq_some.mpr ⟨b, hFF' a b hfa, bs', hbs', rfl⟩

theorem evalVol_dropRemoved {σ : TSense} {r r' : Nat → Option Bool} {removed : List Nat} {w : Vol} {b : Bool}
    (hdead : ∀ j ∈ removed, ∀ b, r j = some b → b = false) (hrr' : ∀ j b, r j = some b → r' j = some b)
    (h : evalVol σ r w = some b) : evalVol σ r' (dropRemoved removed w) = some b := by
  cases hu : isUnion w with
  | false =>
    rw [dropRemoved_of_not_union hu]
    exact evalVol_mono (fun j _ => hrr' j) h
  | true =>
    obtain ⟨ids, ho⟩ := (isUnion_iff w).mp hu
    simp only [evalVol, ho, Option.map_eq_some_iff] at h
    obtain ⟨bs, hbs, rfl⟩ := h
    obtain ⟨bs', hbs', hany⟩ := mapM_filter_any removed hdead hrr' ids bs hbs
    simp only [evalVol, ops_dropRemoved ho, equa_dropRemoved]
    by_cases hemp : (ids.filter (!removed.contains ·)).isEmpty = true
    · -- no operand is left: every operand evaluated to ∅, the value was that of the EQUA part
      rw [if_pos hemp]
      rw [List.isEmpty_iff.mp hemp] at hbs'
      cases hbs'
      have hany' : bs.any id = false := by simpa using hany.symm
      simp [combine, hany']
    · rw [if_neg hemp]
      exact Option.map_eq_some_iff.mpr ⟨bs', hbs', by simp [combine, hany]⟩

theorem den'_afterRound {vs : List (Nat × Vol)} {σ : TSense} {removed : List Nat}
    (hmiss : ∀ r ∈ removed, ¬ hasKey vs r) :
    ∀ f j b, den' vs σ f j = some b → den' (afterRound vs removed).1 σ f j = some b := by
  rw [afterRound_fst]
  apply den'_transfer
  intro f ih j b h
  rw [den'_succ] at h ⊢
  rw [dictGet?_map]
  cases hg : dictGet? vs j with
  | none => simpa [hg] using h
  | some w =>
    rw [hg] at h
    exact evalVol_dropRemoved (fun r hr => dead_of_not_hasKey (hmiss r hr) f) ih h

/-! ## the invariant of `remove_empty_volumes` -/

theorem equa_of_empty (σ : TSense) (v : Vol) (h : v.empty = true) : equa σ v = false := by
  unfold Vol.empty at h
  obtain ⟨s, hs, hm⟩ := List.any_eq_true.mp h
  have hm' : s ∈ v.minuses := by simpa using hm
  -- `s` is on both sides: whatever its sense, one of the two conjuncts fails
  by_cases hσ : σ s = true
  · exact Bool.and_eq_false_iff.mpr (Or.inr (List.all_eq_false.mpr ⟨s, hm', by simp [hσ]⟩))
  · exact Bool.and_eq_false_iff.mpr (Or.inl (List.all_eq_false.mpr ⟨s, hs, hσ⟩))

/-- what is known of a queued key when its turn comes: its EQUA part is empty, or it is an intersection one of whose
operands is gone -/
def QueuedPre (vs : List (Nat × Vol)) (σ : TSense) (k : Nat) : Prop :=
  ∀ v, dictGet? vs k = some v → equa σ v = false ∨ isUnion v = false ∧ ∃ r ∈ idsOf v, ¬ hasKey vs r

theorem mapM_all_false {F : Nat → Option Bool} {r : Nat} (hF : ∀ b, F r = some b → b = false) :
    ∀ {ids : List Nat} {bs : List Bool}, r ∈ ids → ids.mapM F = some bs → bs.all id = false
  | a :: as, _, hr, h => by
      obtain ⟨b, hb, bs, hbs, rfl⟩ := mapM_cons_eq_some.mp h
      rcases List.mem_cons.mp hr with rfl | hr'
      · simp [hF b hb]
      · simp [mapM_all_false hF hr' hbs]

theorem dead_of_pre {vs : List (Nat × Vol)} {σ : TSense} {k : Nat} {v : Vol} (hk : dictGet? vs k = some v)
    (hnu : isUnion v = false) (hp : QueuedPre vs σ k) : Dead' vs σ k := by
  intro f b hb
  cases f with
  | zero => simp [den'] at hb
  | succ f =>
    rw [den'_succ, hk] at hb
    simp only [Option.map_some, Option.getD_some, evalVol] at hb
    cases ho : v.ops with
    | none =>
      rcases hp v hk with he | ⟨-, r, hr, -⟩
      · simp [ho, he] at hb; exact hb
      · rw [idsOf_none ho] at hr; cases hr
    | some q =>
      obtain ⟨op, ids⟩ := q
      cases op with
      | union => simp [isUnion, ho] at hnu
      | inter =>
        simp only [ho, Option.map_eq_some_iff] at hb
        obtain ⟨bs, hbs, rfl⟩ := hb
        rcases hp v hk with he | ⟨-, r, hr, hmiss⟩
        · simp [combine, he]
        · simp [combine, mapM_all_false (dead_of_not_hasKey hmiss f) (idsOf_of_ops ho ▸ hr) hbs]

/-- `vs` is what the loop has made of `orig`: every denotation is kept (a deleted key reads ∅, which it denoted
before), and the keys in `removed` are gone -/
structure RefinesInv (orig vs : List (Nat × Vol)) (σ : TSense) (removed : List Nat) : Prop where
  ref : ∀ f j b, den' orig σ f j = some b → den' vs σ f j = some b
  miss : ∀ r ∈ removed, ¬ hasKey vs r

/-- `R`: the keys deleted in earlier rounds; `acc.2`: those deleted so far in this round, which starts it at `[]` -/
theorem roundStep_inv (u : Nat × Nat) (σ : TSense) (hσu : ¬ (σ u.1 = true ∧ σ u.2 = false)) (orig : List (Nat × Vol))
    (R : List Nat) (acc : List (Nat × Vol) × List Nat) (k : Nat)
    (inv : RefinesInv orig acc.1 σ (R ++ acc.2)) (hp : QueuedPre acc.1 σ k) :
    RefinesInv orig (roundStep u acc k).1 σ (R ++ (roundStep u acc k).2) := by
  apply roundStep_cases u acc k (P := fun a => RefinesInv orig a.1 σ (R ++ a.2))
  · exact fun _ => inv
  · intro v hg hu
    have he : equa σ v = false := (hp v hg).resolve_right fun h => by simp [hu] at h
    have heq : equa σ ({ v with pluses := [u.1], minuses := [u.2] } : Vol) = equa σ v := by
      rw [he]; simpa [equa] using hσu
    exact ⟨fun f j b h =>
        den'_updAt (v' := { v with pluses := [u.1], minuses := [u.2] }) hg rfl heq f j b (inv.ref f j b h),
      fun r hr h => inv.miss r hr (hasKey_updAt.mp h)⟩
  · intro v hg hu
    refine ⟨fun f j b h => den'_delKey (dead_of_pre hg hu hp) f j b (inv.ref f j b h), fun r hr h => ?_⟩
    obtain ⟨hrk, hr'⟩ := hasKey_delKey.mp h
    rw [← List.append_assoc, List.mem_append, List.mem_singleton] at hr
    exact hr.elim (fun hr => inv.miss r hr hr') hrk

theorem roundStep_pre (u : Nat × Nat) (σ : TSense) (hσu : ¬ (σ u.1 = true ∧ σ u.2 = false))
    (acc : List (Nat × Vol) × List Nat) (k k' : Nat) (hp : QueuedPre acc.1 σ k') :
    QueuedPre (roundStep u acc k).1 σ k' := by
  apply roundStep_cases u acc k (P := fun a => QueuedPre a.1 σ k')
  · exact fun _ => hp
  · intro v hg _ w hw
    by_cases hk : k' = k
    · subst hk
      rw [dictGet?_updAt_self hg] at hw
      cases hw
      exact Or.inl (by simpa [equa] using hσu)
    · rw [dictGet?_updAt_ne hk] at hw
      exact (hp w hw).imp id fun ⟨hnu, r, hr, hm⟩ => ⟨hnu, r, hr, fun h => hm (hasKey_updAt.mp h)⟩
  · intro v _ _ w hw
    by_cases hk : k' = k
    · subst hk; rw [dictGet?_delKey_self] at hw; cases hw
    · rw [dictGet?_delKey_ne hk] at hw
      exact (hp w hw).imp id fun ⟨hnu, r, hr, hm⟩ => ⟨hnu, r, hr, fun h => hm (hasKey_delKey.mp h).2⟩

/-! ## unique keys -/

theorem keysNodup_roundStep (u : Nat × Nat) (acc : List (Nat × Vol) × List Nat) (k : Nat) (h : KeysNodup acc.1) :
    KeysNodup (roundStep u acc k).1 :=
  roundStep_cases u acc k (P := fun a => KeysNodup a.1) (fun _ => h)
    (fun _ _ _ => by unfold KeysNodup; rw [keys_updAt]; exact h)
    (fun _ _ _ => List.Nodup.sublist (List.Sublist.map _ List.filter_sublist) h)

theorem keysNodup_round (u : Nat × Nat) (vs : List (Nat × Vol)) (q : List Nat) (h : KeysNodup vs) :
    KeysNodup (removeEmptyRound u vs q).1 :=
  round_rule u (P := fun acc => KeysNodup acc.1) vs q h fun acc k _ => keysNodup_roundStep u acc k

theorem KeysNodup.map_snd {vs : List (Nat × Vol)} (g : Vol → Vol) (h : KeysNodup vs) :
    KeysNodup (vs.map fun p => (p.1, g p.2)) := by
  unfold KeysNodup
  rw [keys_map_snd]
  exact h

theorem removeEmpty_keysNodup (u : Nat × Nat) (vols : List (Nat × Vol)) (h : KeysNodup vols) :
    KeysNodup (removeEmpty u vols) :=
  loop_preserves u (keysNodup_roundStep u) (fun _ _ h => afterRound_fst _ _ ▸ h.map_snd _) _ _ _ _ h

/-! ## keys and flags only shrink -/

/-- every entry of `vs` has an entry of `orig` with its key and its `fictive` flag: no pass of the post-processing
creates a key or touches a flag -/
def Shrinks (orig vs : List (Nat × Vol)) : Prop := ∀ p ∈ vs, ∃ q ∈ orig, q.1 = p.1 ∧ q.2.fictive = p.2.fictive

theorem Shrinks.refl (vs : List (Nat × Vol)) : Shrinks vs vs := fun p hp => ⟨p, hp, rfl, rfl⟩

theorem Shrinks.trans {a b c : List (Nat × Vol)} (h₁ : Shrinks a b) (h₂ : Shrinks b c) : Shrinks a c := by
  intro p hp
  obtain ⟨q, hq, e₁, e₂⟩ := h₂ p hp
  obtain ⟨r, hr, e₃, e₄⟩ := h₁ q hq
  exact ⟨r, hr, e₃.trans e₁, e₄.trans e₂⟩

theorem Shrinks.keys {orig vs : List (Nat × Vol)} (h : Shrinks orig vs) {j : Nat} (hj : hasKey vs j) :
    hasKey orig j := by
  obtain ⟨p, hp, rfl⟩ := hj
  obtain ⟨q, hq, e, -⟩ := h p hp
  exact ⟨q, hq, e⟩

theorem Shrinks.filter (vs : List (Nat × Vol)) (P : Nat × Vol → Bool) : Shrinks vs (vs.filter P) :=
  fun p hp => ⟨p, (List.mem_filter.mp hp).1, rfl, rfl⟩

theorem Shrinks.map (vs : List (Nat × Vol)) {g : Vol → Vol} (hg : ∀ w, (g w).fictive = w.fictive) :
    Shrinks vs (vs.map fun p => (p.1, g p.2)) := by
  intro p hp
  obtain ⟨q, hq, rfl⟩ := List.mem_map.mp hp
  exact ⟨q, hq, rfl, (hg q.2).symm⟩

theorem removeEmpty_shrinks (u : Nat × Nat) (vols : List (Nat × Vol)) : Shrinks vols (removeEmpty u vols) :=
  loop_preserves u (P := Shrinks vols)
    (fun acc k h => h.trans <| roundStep_cases u acc k (P := fun a => Shrinks acc.1 a.1) (fun _ => Shrinks.refl _)
      (fun v hg _ p hp => (mem_updAt hp).elim (fun h => ⟨p, h, rfl, rfl⟩)
        fun e => ⟨(k, v), find_fst_mem hg, by rw [e], by rw [e]⟩)
      (fun _ _ _ => Shrinks.filter _ _))
    (fun vs removed h => h.trans (by rw [afterRound_fst]; exact Shrinks.map vs (fictive_dropRemoved removed)))
    _ _ _ _ (Shrinks.refl vols)

/-! ## the loop -/

theorem queue_pre_afterRound (vs : List (Nat × Vol)) (removed : List Nat) (hnd : KeysNodup vs) :
    ∀ k ∈ (afterRound vs removed).2, ∃ v, dictGet? (afterRound vs removed).1 k = some v ∧ isUnion v = false ∧
      ∃ r ∈ idsOf v, r ∈ removed := by
  intro k hk
  obtain ⟨v, hm, hu, hr⟩ := mem_afterRound_snd.mp hk
  refine ⟨v, ?_, hu, hr⟩
  rw [afterRound_fst, dictGet?_map, dictGet?_of_mem hnd hm, Option.map_some, dropRemoved_of_not_union hu]

theorem afterRound_inv (σ : TSense) (orig vs : List (Nat × Vol)) (removed : List Nat)
    (inv : RefinesInv orig vs σ removed) (hnd : KeysNodup vs) :
    RefinesInv orig (afterRound vs removed).1 σ removed ∧
      ∀ k ∈ (afterRound vs removed).2, QueuedPre (afterRound vs removed).1 σ k := by
  refine ⟨⟨fun f j b h => den'_afterRound inv.miss f j b (inv.ref f j b h),
    fun r hr h => inv.miss r hr (hasKey_afterRound.mp h)⟩, ?_⟩
  intro k hk w hw
  obtain ⟨v, hv, hu, r, hr, hrem⟩ := queue_pre_afterRound vs removed hnd k hk
  cases hv.symm.trans hw
  exact Or.inr ⟨hu, r, hr, fun h => inv.miss r hrem (hasKey_afterRound.mp h)⟩

/-- a deleted key reads ∅ afterwards: only volumes that denote ∅ are deleted (`hσu`: at `σ` the two auxiliary union
planes bound nothing) -/
theorem removeEmpty_preserves (u : Nat × Nat) (σ : TSense) (hσu : ¬ (σ u.1 = true ∧ σ u.2 = false))
    (vols : List (Nat × Vol)) (hnd : KeysNodup vols) :
    ∀ f j b, den' vols σ f j = some b → den' (removeEmpty u vols) σ f j = some b := by
  have hpre0 : ∀ k ∈ (vols.filter (·.2.empty)).map (·.1), QueuedPre vols σ k := by
    intro k hk v hv
    obtain ⟨⟨k', v'⟩, hm, rfl⟩ := List.mem_map.mp hk
    obtain ⟨hm1, hm2⟩ := List.mem_filter.mp hm
    rw [dictGet?_of_mem hnd hm1] at hv
    cases hv
    exact Or.inl (equa_of_empty σ _ hm2)
  obtain ⟨_, _, _, ⟨inv, _, _⟩, _⟩ := loop_rule u
    (I := fun _ vs q removed => RefinesInv vols vs σ removed ∧ KeysNodup vs ∧ ∀ k ∈ q, QueuedPre vs σ k)
    (fun _ vs q removed ⟨inv, hnd, hpre⟩ _ =>
      have hnd₁ := keysNodup_round u vs q hnd
      have hr := round_rule u
        (P := fun acc => RefinesInv vols acc.1 σ (removed ++ acc.2) ∧ ∀ k ∈ q, QueuedPre acc.1 σ k) vs q
        ⟨by simpa using inv, hpre⟩ fun acc k hk h =>
          ⟨roundStep_inv u σ hσu vols removed acc k h.1 (h.2 k hk),
            fun k' hk' => roundStep_pre u σ hσu acc k k' (h.2 k' hk')⟩
      have h := afterRound_inv σ vols _ _ hr.1 hnd₁
      ⟨h.1, afterRound_fst _ _ ▸ hnd₁.map_snd _, h.2⟩)
    (vols.length + 2) vols _ [] ⟨⟨fun _ _ _ h => h, fun r hr => by simp at hr⟩, hnd, hpre0⟩
  exact inv.ref

/-! ## `remove_unused_volumes` -/

def usedIds (vols : List (Nat × Vol)) : List Nat := vols.flatMap fun q => idsOf q.2

def keepP (vols : List (Nat × Vol)) (p : Nat × Vol) : Bool := !(p.2.fictive && !(usedIds vols).contains p.1)

theorem removeUnused_eq (vols : List (Nat × Vol)) : removeUnused vols = vols.filter (keepP vols) := rfl

/-- `remove_unused_volumes` changes no surviving denotation: every volume it deletes is referenced by
nobody -/
theorem den'_removeUnused (vols : List (Nat × Vol)) (σ : TSense) (hnd : KeysNodup vols) :
    ∀ f j b, hasKey (removeUnused vols) j → den' vols σ f j = some b → den' (removeUnused vols) σ f j = some b := by
  rw [removeUnused_eq]
  intro f
  induction f with
  | zero => intro j b _ h; simp [den'] at h
  | succ f ih =>
    intro j b hj h
    obtain ⟨w, hw'⟩ := hasKey_of_dictGet?.mp hj
    have hw := dictGet?_of_mem hnd (List.mem_filter.mp (find_fst_mem hw')).1
    rw [den'_succ] at h ⊢
    rw [hw] at h
    rw [hw']
    refine evalVol_mono (fun r hr br hbr => ?_) h
    by_cases hk : hasKey vols r
    · -- `r` is an operand of `j`: it is used, so it is kept
      obtain ⟨wr, hwr⟩ := hasKey_of_dictGet?.mp hk
      have hused : r ∈ usedIds vols := List.mem_flatMap.mpr ⟨(j, w), find_fst_mem hw, hr⟩
      exact ih r br ⟨(r, wr), List.mem_filter.mpr ⟨find_fst_mem hwr, by simp [keepP, hused]⟩, rfl⟩ hbr
    · have hk' : ¬ hasKey (vols.filter (keepP vols)) r := fun ⟨p, hp, e⟩ => hk ⟨p, (List.mem_filter.mp hp).1, e⟩
      cases f with
      | zero => simp [den'] at hbr
      | succ f' => rw [den'_of_not_hasKey hk] at hbr; rw [den'_of_not_hasKey hk']; exact hbr

/-! ## the whole post-processing -/

theorem renumOf_sense (σ : TSense) (surfs : List (Nat × String))
    (hσeq : ∀ a b ka kb, (a, ka) ∈ surfs → (b, kb) ∈ surfs → ka = kb → σ a = σ b) (s : Nat) :
    σ (renumOf (removeDuplicates surfs).2 s) = σ s := by
  unfold renumOf
  cases hf : (removeDuplicates surfs).2.find? (·.1 == s) with
  | none => simp
  | some p =>
    have hm := List.mem_of_find?_eq_some hf
    have hs : p.1 = s := by simpa using List.find?_some hf
    obtain ⟨k, h1, h2, -⟩ := removeDuplicates_sound surfs p.1 p.2 hm
    simp only [Option.map_some, Option.getD_some]
    rw [← hs]
    exact (hσeq p.1 p.2 k k h1 h2 rfl).symm

theorem empty_unused_preserves (u : Nat × Nat) (σ : TSense) (hσu : ¬ (σ u.1 = true ∧ σ u.2 = false))
    (vols : List (Nat × Vol)) (hnd : KeysNodup vols) (k : Nat) (v : Vol) (b : Bool)
    (hk : dictGet? vols k = some v) (hf : v.fictive = false) (hd : Denotes' vols σ k b) :
    (hasKey (removeUnused (removeEmpty u vols)) k → Denotes' (removeUnused (removeEmpty u vols)) σ k b) ∧
    (¬ hasKey (removeUnused (removeEmpty u vols)) k → b = false) := by
  obtain ⟨f, hfd⟩ := hd
  have href := removeEmpty_preserves u σ hσu vols hnd f k b hfd
  refine ⟨fun hk₃ => ⟨f, den'_removeUnused _ σ (removeEmpty_keysNodup u vols hnd) f k b hk₃ href⟩, fun hk₃ => ?_⟩
  by_cases hk₂ : hasKey (removeEmpty u vols) k
  · -- `k` is not virtual: had `remove_empty_volumes` kept it, `remove_unused_volumes` would have
    exfalso
    obtain ⟨p, hp, rfl⟩ := hk₂
    obtain ⟨q, hq, e, hfq⟩ := removeEmpty_shrinks u vols p hp
    have hq' := dictGet?_of_mem hnd (k := q.1) (v := q.2) hq
    rw [e, hk] at hq'
    cases hq'
    exact hk₃ ⟨p, List.mem_filter.mpr ⟨hp, by simp [← hfq, hf]⟩, rfl⟩
  · exact dead_of_not_hasKey hk₂ f b href

theorem postProcess_den' (dedup : Bool) (surfs : List (Nat × String)) (u : Nat × Nat) (vols : List (Nat × Vol))
    (σ : TSense) (hnd : KeysNodup vols) (hσu : ¬ (σ u.1 = true ∧ σ u.2 = false))
    (hσeq : ∀ a b ka kb, (a, ka) ∈ surfs → (b, kb) ∈ surfs → ka = kb → σ a = σ b)
    (k : Nat) (v : Vol) (b : Bool) (hk : dictGet? vols k = some v) (hf : v.fictive = false)
    (hd : Denotes vols σ k b) :
    (hasKey (postProcess dedup surfs u vols).2 k → Denotes' (postProcess dedup surfs u vols).2 σ k b) ∧
    (¬ hasKey (postProcess dedup surfs u vols).2 k → b = false) := by
  obtain ⟨f, hfd⟩ := hd
  apply postProcess_cases dedup surfs u vols
    (P := fun X => (hasKey X k → Denotes' X σ k b) ∧ (¬ hasKey X k → b = false))
  · exact empty_unused_preserves u σ hσu vols hnd k v b hk hf ⟨f, den_imp_den' vols σ f k b hfd⟩
  · intro ren hren
    have hσ : ∀ s, σ (renumOf ren s) = σ s := hren ▸ renumOf_sense σ surfs hσeq
    exact empty_unused_preserves _ σ (by rw [hσ, hσ]; exact hσu) (renumberVols ren vols) (hnd.map_snd _) k
      (renumVol ren v) b (by rw [renumberVols, dictGet?_map, hk]; rfl) hf
      ⟨f, den_imp_den' _ σ f k b (by rw [den_renumber σ ren hσ]; exact hfd)⟩

theorem postProcess_keys_subset (dedup : Bool) (surfs : List (Nat × String)) (u : Nat × Nat)
    (vols : List (Nat × Vol)) (j : Nat) (h : hasKey (postProcess dedup surfs u vols).2 j) : hasKey vols j :=
  have hs : Shrinks vols (postProcess dedup surfs u vols).2 :=
    postProcess_cases dedup surfs u vols (P := Shrinks vols)
      ((removeEmpty_shrinks u vols).trans (Shrinks.filter _ _))
      fun ren _ =>
        ((Shrinks.map vols (g := renumVol ren) fun _ => rfl).trans (removeEmpty_shrinks _ _)).trans (Shrinks.filter _ _)
  hs.keys h

end T4V
