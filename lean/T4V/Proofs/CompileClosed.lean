import T4V.Proofs.Den
/-!
# The dictionary built by the conversion loop is closed: every operand of every volume is a key

Syntactic invariant of `convert_surface`, `pot_convert`, `convert_cellref`, `pot_to_t4_cell` and the loop of
`construct_volume_t4`: keys only grow, every cached id is a key, every id returned is a key, and a volume is only
ever stored with operands that were returned before.  This discharges the hypothesis `Closed` of
`postProcess_preserves` for the dictionaries the compiler produces.
-/
namespace T4V

/-- keys only grow -/
def KMono (st st' : CState) : Prop := ∀ k, hasKey st.vols k → hasKey st'.vols k

structure CGood (st : CState) : Prop where
  closed : Closed st.vols
  nodup : KeysNodup st.vols
  surf : ∀ p ∈ st.surfCache, hasKey st.vols p.2
  cell : ∀ p ∈ st.cellCache, hasKey st.vols p.2

structure COut (st st' : CState) (r : Option Nat) : Prop where
  good : CGood st'
  mono : KMono st st'
  res : ∀ id, r = some id → hasKey st'.vols id

structure COutL (st st' : CState) (rs : List (Option Nat)) : Prop where
  good : CGood st'
  mono : KMono st st'
  res : ∀ id, some id ∈ rs → hasKey st'.vols id

theorem KMono.refl (st : CState) : KMono st st := fun _ h => h
theorem KMono.trans {a b c : CState} (h1 : KMono a b) (h2 : KMono b c) : KMono a c := fun k h => h2 k (h1 k h)

theorem CGood.store {st : CState} (hg : CGood st) (n pid : Nat) (v : Vol)
    (hv : ∀ r ∈ idsOf v, hasKey st.vols r) :
    COut st { st with next := n, vols := dictSet st.vols pid v } (some pid) :=
  have old : ∀ k, hasKey st.vols k → hasKey (dictSet st.vols pid v) k := fun _ hk => hasKey_dictSet.mpr (Or.inl hk)
  ⟨⟨hg.closed.dictSet fun r hr => Or.inl (hv r hr), hg.nodup.dictSet, fun p hp => old _ (hg.surf p hp),
      fun p hp => old _ (hg.cell p hp)⟩, old, fun id h => by cases h; exact hasKey_dictSet.mpr (Or.inr rfl)⟩

theorem convertSurface_closed (s : Int) (origin : List (Nat × Nat)) (st : CState) (hg : CGood st) :
    COut st (convertSurface s origin st).2 (some (convertSurface s origin st).1) := by
  unfold convertSurface
  cases hf : st.surfCache.find? (·.1 == s) with
  | some p =>
    simp only [Option.map_some]
    exact ⟨hg, KMono.refl st, fun id h => by
      cases h; exact hg.surf p (List.mem_of_find?_eq_some hf)⟩
  | none =>
    simp only [Option.map_none]
    have o := CGood.store hg (st.next + 1) (st.next + 1)
      { pluses := (convEqua [s]).1, minuses := (convEqua [s]).2, origin := origin } (fun r hr => by cases hr)
    refine ⟨⟨o.good.closed, o.good.nodup, fun p hp => ?_, o.good.cell⟩, o.mono, o.res⟩
    rcases List.mem_append.mp hp with hp | hp
    · exact o.good.surf p hp
    · cases List.mem_singleton.mp hp; exact o.res _ rfl

/-! ### composing outcomes: conversions run one after the other, then a node is stored -/

theorem COut.toL {st st' r} (o : COut st st' r) : COutL st st' [r] :=
  ⟨o.good, o.mono, fun id h => o.res id (List.mem_singleton.mp h).symm⟩

theorem COutL.nil {st} (hg : CGood st) : COutL st st [] :=
  ⟨hg, KMono.refl st, fun _ h => by cases h⟩

theorem COutL.append {a b c rs1 rs2} (o1 : COutL a b rs1) (o2 : COutL b c rs2) : COutL a c (rs1 ++ rs2) := by
  refine ⟨o2.good, o1.mono.trans o2.mono, fun id hid => ?_⟩
  rcases List.mem_append.mp hid with h | h
  · exact o2.mono id (o1.res id h)
  · exact o2.res id h

theorem COutL.none {st st' rs} (o : COutL st st' rs) : COut st st' none :=
  ⟨o.good, o.mono, fun _ h => by cases h⟩

theorem COutL.store {st st' rs} (o : COutL st st' rs) (pid : Nat) (v : Vol)
    (hv : ∀ r ∈ idsOf v, some r ∈ rs) : COut st { st' with vols := dictSet st'.vols pid v } (some pid) :=
  let o3 := CGood.store o.good st'.next pid v fun r hr => o.res r (hv r hr)
  ⟨o3.good, o.mono.trans o3.mono, o3.res⟩

/-- the disjunction mirrors `ops := if ids.isEmpty then none else some (op, ids)` of `pot_to_t4_cell` -/
theorem mem_idsOf_of_ops {v : Vol} {op : Op} {rs : List (Option Nat)} {r : Nat}
    (h : v.ops = none ∨ v.ops = some (op, rs.filterMap id)) (hr : r ∈ idsOf v) : some r ∈ rs := by
  rcases h with h | h
  · rw [idsOf_none h] at hr; cases hr
  · rw [idsOf_of_ops h] at hr; simpa using hr

variable (env : CEnv)

mutual
theorem potConvert_closed : ∀ (fuel : Nat) (c : CellIn) (st : CState) (r : Option Nat) (st' : CState),
    CGood st → potConvert env fuel c st = .ok (r, st') → COut st st' r
  | 0, _, _, _, _, _, h => by simp [potConvert] at h
  | fuel + 1, c, st, r, st', hg, h => by
      simp only [potConvert, Except.bind_eq_ok_iff, Prod.exists] at h
      obtain ⟨t2, k2, _, h⟩ := h
      have hg2 : CGood { st with next := k2 } := ⟨hg.closed, hg.nodup, hg.surf, hg.cell⟩
      split at h
      · cases h; exact ⟨hg2, fun _ h => h, fun _ h => by cases h⟩
      · have o := toT4_closed fuel _ c.origin { st with next := k2 } r st' hg2 h
        exact ⟨o.good, o.mono, o.res⟩

theorem convertCellref_closed : ∀ (fuel : Nat) (c : Nat) (st : CState) (r : Option Nat) (st' : CState),
    CGood st → convertCellref env fuel c st = .ok (r, st') → COut st st' r
  | 0, _, _, _, _, _, h => by simp [convertCellref] at h
  | fuel + 1, c, st, r, st', hg, h => by
      simp only [convertCellref] at h
      cases hf : st.cellCache.find? (·.1 == c) with
      | some p =>
        simp only [hf, Option.map_some, Except.ok.injEq, Prod.mk.injEq] at h
        obtain ⟨rfl, rfl⟩ := h
        exact ⟨hg, KMono.refl _, fun id hid => by cases hid; exact hg.cell p (List.mem_of_find?_eq_some hf)⟩
      | none =>
        simp only [hf, Option.map_none] at h
        split at h
        · cases h
        · simp only [Except.bind_eq_ok_iff, Prod.exists] at h
          obtain ⟨r1, st1, hp, h⟩ := h
          have o := potConvert_closed fuel _ st r1 st1 hg hp
          cases r1 with
          | none => cases h; exact o
          | some id =>
            cases h
            refine ⟨⟨o.good.closed, o.good.nodup, o.good.surf, ?_⟩, o.mono, o.res⟩
            intro p hp
            rcases List.mem_append.mp hp with hp | hp
            · exact o.good.cell p hp
            · cases List.mem_singleton.mp hp; exact o.res id rfl

theorem toT4_closed : ∀ (fuel : Nat) (t : FTree) (origin : List (Nat × Nat)) (st : CState) (r : Option Nat)
    (st' : CState), CGood st → toT4 env fuel t origin st = .ok (r, st') → COut st st' r
  | 0, _, _, _, _, _, _, h => by simp [toT4] at h
  | fuel + 1, .lit s, origin, st, r, st', hg, h => by
      simp only [toT4, Except.ok.injEq, Prod.mk.injEq] at h
      obtain ⟨rfl, rfl⟩ := h
      exact convertSurface_closed s origin st hg
  | fuel + 1, .msurf n sub, origin, st, r, st', _, h => by simp [toT4] at h
  | fuel + 1, .cref c, origin, st, r, st', hg, h => by
      simp only [toT4] at h
      exact convertCellref_closed fuel c st r st' hg h
  | fuel + 1, .node pid .inter args, origin, st, r, st', hg, h => by
      simp only [toT4, Except.bind_eq_ok_iff, Prod.exists] at h
      obtain ⟨ids1, st1, h1, ids2, st2, h2, h⟩ := h
      have o1 := toT4List_closed fuel _ origin st ids1 st1 hg h1
      have o := o1.append (cellrefList_closed fuel _ st1 ids2 st2 o1.good h2)
      split at h
      · cases h; exact o.none
      · cases h
        exact o.store pid _ fun r hr =>
          mem_idsOf_of_ops (op := .inter) (by dsimp only; split <;> simp) hr
  | fuel + 1, .node pid .union args, origin, st, r, st', hg, h => by
      simp only [toT4] at h
      split at h
      · simp only [Except.bind_eq_ok_iff, Prod.exists] at h
        obtain ⟨ids1, st1, h1, ids2, st2, h2, h⟩ := h
        have o1 := toT4List_closed fuel _ origin st ids1 st1 hg h1
        have o := o1.append (cellrefList_closed fuel _ st1 ids2 st2 o1.good h2)
        split at h
        · cases h; exact o.none
        · cases h
          exact o.store pid _ fun r hr =>
            mem_idsOf_of_ops (op := .union) (Or.inr rfl) hr
      · simp only [Except.bind_eq_ok_iff, Prod.exists] at h
        obtain ⟨mid, st0, h0, h⟩ := h
        have o0 := toT4_closed fuel _ origin st mid st0 hg h0
        cases mid with
        | none => cases h
        | some mid =>
          simp only [Except.bind_eq_ok_iff, Prod.exists] at h
          obtain ⟨ids1, st1, h1, ids2, st2, h2, h⟩ := h
          have o1 := toT4List_closed fuel _ origin st0 ids1 st1 o0.good h1
          have o := o0.toL.append (o1.append (cellrefList_closed fuel _ st1 ids2 st2 o1.good h2))
          cases h
          exact o.store pid _ fun r hr => List.mem_append_right _
            (mem_idsOf_of_ops (op := .union) (by dsimp only; split <;> simp) hr)

theorem toT4List_closed : ∀ (fuel : Nat) (ts : List FTree) (origin : List (Nat × Nat)) (st : CState)
    (rs : List (Option Nat)) (st' : CState), CGood st → toT4List env fuel ts origin st = .ok (rs, st') →
    COutL st st' rs
  | 0, _, _, _, _, _, _, h => by simp [toT4List] at h
  | fuel + 1, [], origin, st, rs, st', hg, h => by
      simp only [toT4List, Except.ok.injEq, Prod.mk.injEq] at h
      obtain ⟨rfl, rfl⟩ := h
      exact .nil hg
  | fuel + 1, t :: ts, origin, st, rs, st', hg, h => by
      simp only [toT4List, Except.bind_eq_ok_iff, Prod.exists, Except.ok.injEq, Prod.mk.injEq] at h
      obtain ⟨r1, st1, h1, rs2, st2, h2, rfl, rfl⟩ := h
      have o1 := toT4_closed fuel t origin st r1 st1 hg h1
      exact o1.toL.append (toT4List_closed fuel ts origin st1 rs2 st2 o1.good h2)

theorem cellrefList_closed : ∀ (fuel : Nat) (cs : List Nat) (st : CState) (rs : List (Option Nat)) (st' : CState),
    CGood st → cellrefList env fuel cs st = .ok (rs, st') → COutL st st' rs
  | 0, _, _, _, _, _, h => by simp [cellrefList] at h
  | fuel + 1, [], st, rs, st', hg, h => by
      simp only [cellrefList, Except.ok.injEq, Prod.mk.injEq] at h
      obtain ⟨rfl, rfl⟩ := h
      exact .nil hg
  | fuel + 1, c :: cs, st, rs, st', hg, h => by
      simp only [cellrefList, Except.bind_eq_ok_iff, Prod.exists, Except.ok.injEq, Prod.mk.injEq] at h
      obtain ⟨r1, st1, h1, rs2, st2, h2, rfl, rfl⟩ := h
      have o1 := convertCellref_closed fuel c st r1 st1 hg h1
      exact o1.toL.append (cellrefList_closed fuel cs st1 rs2 st2 o1.good h2)
end

/-- the loop of `construct_volume_t4`: the copy of a converted volume under the cell's own number has the same
operands -/
theorem convertAll_closed (fuel : Nat) : ∀ (keys : List Nat) (st st' : CState),
    CGood st → convertAll env fuel keys st = .ok st' → CGood st'
  | [], st, st', hg, h => by
      simp only [convertAll, Except.ok.injEq] at h
      subst h; exact hg
  | c :: cs, st, st', hg, h => by
      simp only [convertAll] at h
      split at h
      · cases h
      next cell hc =>
        simp only [Except.bind_eq_ok_iff, Prod.exists] at h
        obtain ⟨r, st1, hp, h⟩ := h
        have o := potConvert_closed env fuel cell st r st1 hg hp
        cases r with
        | none => exact convertAll_closed fuel cs st1 st' o.good h
        | some j =>
          simp only at h
          split at h
          · cases h
          next v hj =>
            have o3 := CGood.store o.good st1.next c { v with fictive := false }
              (fun r hr => o.good.closed (j, v) (find_fst_mem hj) r (by simpa [idsOf] using hr))
            exact convertAll_closed fuel cs _ st' o3.good h

theorem convertAll_closed_init (fuel next0 : Nat) (keys : List Nat) (st' : CState)
    (h : convertAll env fuel keys { next := next0 } = .ok st') : Closed st'.vols ∧ KeysNodup st'.vols := by
  have g0 : CGood { next := next0 } :=
    ⟨fun p hp => by simp at hp, by simp [KeysNodup], fun p hp => by simp at hp, fun p hp => by simp at hp⟩
  have := convertAll_closed env fuel keys _ st' g0 h
  exact ⟨this.closed, this.nodup⟩

end T4V
