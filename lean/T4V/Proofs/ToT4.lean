import T4V.Proofs.ToT4Inv
/-!
# Main theorem: every volume produced by the conversion denotes the cell expression it came from
-/
namespace T4V

/-- the EQUA part that a union without a pure main part gets (PLUS the first helper plane, MINUS the second)
contains no point -/
theorem EnvOK.helper_equa {env : CEnv} {σ : TSense} {cv : Nat → Bool} (hE : EnvOK env σ cv)
    (ops : Option (Op × List Nat)) (o : List (Nat × Nat)) (f : Bool) :
    equa σ { pluses := (convEqua [(env.unionIds.1 : Int), -(env.unionIds.2 : Int)]).1,
             minuses := (convEqua [(env.unionIds.1 : Int), -(env.unionIds.2 : Int)]).2,
             ops := ops, origin := o, fictive := f } = false := by
  obtain ⟨u1, u2, hu⟩ := hE.helper
  have hz : ∀ s ∈ [(env.unionIds.1 : Int), -(env.unionIds.2 : Int)], s ≠ 0 := by
    intro s hs
    simp only [List.mem_cons, List.mem_nil_iff, or_false] at hs
    rcases hs with rfl | rfl <;> omega
  rw [equa_convEqua σ _ hz]
  have p1 : (env.unionIds.1 : Int) > 0 := by omega
  have p2 : ¬ (-(env.unionIds.2 : Int) > 0) := by omega
  simp only [List.all_cons, List.all_nil, Bool.and_true, litT, p1, p2, if_true, if_false,
    Int.natAbs_natCast, Int.natAbs_neg]
  rw [Bool.eq_false_iff]
  intro h
  simp only [Bool.and_eq_true, Bool.not_eq_true'] at h
  exact hu h

variable (env : CEnv) (σ : TSense) (cv : Nat → Bool) (hE : EnvOK env σ cv)
include hE

mutual
/-- the cell's tree is flagged, expanded and optimised with ids above the counter, then converted; `val` is the value
of the cell's expression -/
theorem potConvert_ok : ∀ (fuel : Nat) (c : CellIn) (st : CState) (r : Option Nat) (st' : CState) (val : Bool),
    StOK σ cv st → c.geom.complFree = true → c.geom.nonzero = true →
    val = c.geom.eval (surfValOf env.matching σ) cv →
    potConvert env fuel c st = .ok (r, st') → Out σ cv [] st st' val r
  | 0, _, _, _, _, _, _, _, _, _, h => by simp [potConvert] at h
  | fuel + 1, c, st, r, st', val, hst, hcf, hnz, hval, h => by
      simp only [potConvert, Except.bind_eq_ok_iff, Prod.exists] at h
      obtain ⟨t2, k2, hx, h⟩ := h
      have hfl := potFlag_spec c.geom st.next
      have hfe := hfl.eval hcf env.matching σ cv
      have hxp := potExpand_ok env.matching hE.matchOK σ cv _ _ t2 k2 (hfl.nonzero hnz) hx
      have hop := potOptimise_ok env.matching σ cv t2 hxp.expanded
      have hle : st.next ≤ k2 := Nat.le_trans hfl.le hxp.le
      have hst2 : StOK σ cv { st with next := k2 } :=
        ⟨fun k hk => Nat.le_trans (hst.below k hk) hle, hst.surf, hst.cell⟩
      have hmove : Step σ [] st { st with next := k2 } := ⟨hle, fun _ _ h => h, fun _ _ h => h, fun _ h => Or.inl h⟩
      split at h
      next ho =>
        cases h
        refine ⟨hst2, hmove, ?_⟩
        show val = false
        rw [hval, ← hfe, ← hxp.eval]
        exact hop.none_ok ho
      next t3 ho =>
        obtain ⟨he3, hx3, _, hsub⟩ := hop.some_ok t3 ho
        -- the ids of the optimised tree were handed out after `st.next`
        have hin : ∀ i ∈ t3.ids, st.next < i ∧ i ≤ k2 := by
          intro i hi
          rcases hxp.ids i (hsub.subset hi) with h' | h'
          · have := hfl.ids.2 i h'; have := hxp.le; omega
          · have := hfl.le; omega
        have hnd : t3.ids.Nodup := hsub.nodup (hxp.nodup hfl.ids.1 fun i hi => (hfl.ids.2 i hi).2)
        have hfree : ∀ i ∈ t3.ids, ¬ hasKey st.vols i := fun i hi hk => by
          have := hst.below i hk
          have := (hin i hi).1
          omega
        have htree : TreeOK t3 { st with next := k2 } := ⟨hx3, hnd, fun i hi => ⟨(hin i hi).2, hfree i hi⟩⟩
        obtain ⟨o, _⟩ := toT4_ok fuel t3 c.origin { st with next := k2 } r st' hst2 htree h
        have step : Step σ t3.ids st st' := hmove.trans o.step
        refine ⟨o.ok, step.of_above fun i hi => (hin i hi).1, ?_⟩
        rw [show val = t3.eval env.matching σ cv by rw [hval, ← hfe, ← hxp.eval, he3]]
        exact o.res

theorem convertCellref_ok : ∀ (fuel : Nat) (c : Nat) (st : CState) (r : Option Nat) (st' : CState),
    StOK σ cv st → convertCellref env fuel c st = .ok (r, st') → Out σ cv [] st st' (cv c) r
  | 0, _, _, _, _, _, h => by simp [convertCellref] at h
  | fuel + 1, c, st, r, st', hst, h => by
      simp only [convertCellref] at h
      cases hf : (st.cellCache.find? (·.1 == c)).map (·.2) with
      | some id =>
        simp only [hf, Except.ok.injEq, Prod.mk.injEq] at h
        obtain ⟨rfl, rfl⟩ := h
        exact ⟨hst, Step.refl σ [] st, hst.cell c id (find_fst_mem hf)⟩
      | none =>
        simp only [hf] at h
        split at h
        · cases h
        next cell hc =>
          obtain ⟨hcf, hnz, hval⟩ := hE.cells c cell hc
          simp only [Except.bind_eq_ok_iff, Prod.exists] at h
          obtain ⟨r1, st1, hp, h⟩ := h
          have o := potConvert_ok fuel cell st r1 st1 (cv c) hst hcf hnz hval hp
          cases r1 with
          | none => cases h; exact o
          | some id =>
            cases h
            have hd : Denotes st1.vols σ id (cv c) := o.res
            -- not `o.step` itself: the state also has the new cache entry, which `Step` does not look at
            refine ⟨⟨o.ok.below, o.ok.surf, fun c2 id2 hm => ?_⟩,
              ⟨o.step.le, o.step.pres, o.step.get, o.step.keys⟩, hd⟩
            rcases List.mem_append.mp hm with hm | hm
            · exact o.ok.cell c2 id2 hm
            · cases List.mem_singleton.mp hm; exact hd

theorem toT4_ok : ∀ (fuel : Nat) (t : FTree) (origin : List (Nat × Nat)) (st : CState) (r : Option Nat)
    (st' : CState), StOK σ cv st → TreeOK t st → toT4 env fuel t origin st = .ok (r, st') →
    Out σ cv t.ids st st' (t.eval env.matching σ cv) r ∧
    (t.isPureMain = true → ∃ id, r = some id ∧ PlainVol σ st'.vols id (t.eval env.matching σ cv))
  | 0, _, _, _, _, _, _, _, h => by simp [toT4] at h
  | fuel + 1, .lit s, origin, st, r, st', hst, htree, h => by
      simp only [toT4, Except.ok.injEq, Prod.mk.injEq] at h
      obtain ⟨rfl, rfl⟩ := h
      have hs : s ≠ 0 := by simpa [FTree.expanded] using htree.expanded
      obtain ⟨a, b, c⟩ := convertSurface_ok (cv := cv) hst s hs origin
      exact ⟨⟨a, b, c.denotes⟩, fun _ => ⟨_, rfl, c⟩⟩
  | fuel + 1, .msurf n sub, origin, st, r, st', _, htree, _ => by
      have := htree.expanded; simp [FTree.expanded] at this
  | fuel + 1, .cref c, origin, st, r, st', hst, _, h => by
      simp only [toT4] at h
      exact ⟨convertCellref_ok fuel c st r st' hst h, fun hp => by simp [FTree.isPureMain] at hp⟩
  | fuel + 1, .node pid .inter args, origin, st, r, st', hst, htree, h => by
      obtain ⟨hpid, hnot, hargs⟩ := htree.node
      simp only [toT4, Except.bind_eq_ok_iff, Prod.exists] at h
      obtain ⟨ids1, st1, h1, ids2, st2, h2, h⟩ := h
      obtain ⟨hlok, hids⟩ : ListOK (nodesOf args) st ∧ FTree.idsList (nodesOf args) = FTree.idsList args :=
        hargs.filter _ fun t _ ht => by cases t <;> simp [FTree.isSurface, FTree.isCref, FTree.ids] at ht ⊢
      have o1 : OutL σ cv _ st st1 _ ids1 := toT4List_ok fuel (nodesOf args) origin st ids1 st1 hst hlok h1
      have o := OutL.append o1 (cellrefList_ok fuel (crefsOf args) st1 ids2 st2 o1.ok h2)
      rw [hids, List.append_nil] at o
      have hval : FTree.eval env.matching σ cv (.node pid .inter args) =
          ((args.filterMap litOf).all (litT σ) &&
            ((nodesOf args).map (FTree.eval env.matching σ cv) ++ (crefsOf args).map cv).all id) := by
        simp only [FTree.eval, evalAll_split env.matching σ cv args hargs.expanded, List.all_append, Bool.and_assoc]
      have hpure : FTree.isPureMain (.node pid .inter args) = true → _ := fun hp => pureMain_results hp o.res
      obtain ⟨hdead, hlive⟩ := ResVals.all _ _ o.res
      split at h
      next hnone =>
        cases h
        refine ⟨⟨o.ok, o.step.mono fun i hi => by simp [FTree.ids, hi], ?_⟩, fun hp => ?_⟩
        · show _ = false
          rw [hval, hdead hnone, Bool.and_false]
        · rw [(hpure hp).2] at hnone; simp at hnone
      next hnone =>
        cases h
        have hlits := equa_convEqua σ _ (lits_nonzero args hargs.expanded)
        refine ⟨Out.store .inter o.ok o.step hpid hnot rfl (hlive (Bool.eq_false_iff.mpr hnone)) ?_, fun hp => ?_⟩
        · rw [hlits, hval]; rfl
        · refine ⟨pid, rfl, _, by rw [dictGet?_dictSet, if_pos rfl], by simp [(hpure hp).2], ?_⟩
          rw [hlits, hval, (hpure hp).1]; simp
  | fuel + 1, .node pid .union args, origin, st, r, st', hst, htree, h => by
      obtain ⟨hpid, hnot, hargs⟩ := htree.node
      simp only [toT4] at h
      split at h
      next hl =>
        simp only [Except.bind_eq_ok_iff, Prod.exists] at h
        obtain ⟨ids1, st1, h1, ids2, st2, h2, h⟩ := h
        obtain ⟨hlok, hids⟩ : ListOK (nonCrefs args) st ∧ FTree.idsList (nonCrefs args) = FTree.idsList args :=
          hargs.filter _ fun t _ ht => by cases t <;> simp [FTree.isCref, FTree.ids] at ht ⊢
        have o1 : OutL σ cv _ st st1 _ ids1 := toT4List_ok fuel (nonCrefs args) origin st ids1 st1 hst hlok h1
        have o := OutL.append o1 (cellrefList_ok fuel (crefsOf args) st1 ids2 st2 o1.ok h2)
        rw [hids, List.append_nil] at o
        obtain ⟨cs, hdl, hany⟩ := ResVals.any _ _ o.res
        have hval : FTree.eval env.matching σ cv (.node pid .union args) = cs.any id := by
          simp only [FTree.eval, evalAny_split env.matching σ cv args, hany, List.any_append]
        refine ⟨?_, fun hp => by simp [FTree.isPureMain] at hp⟩
        split at h
        next hemp =>
          cases h
          refine ⟨o.ok, o.step.mono fun i hi => by simp [FTree.ids, hi], ?_⟩
          show _ = false
          obtain ⟨f, hf⟩ := hdl
          rw [List.isEmpty_iff.mp hemp] at hf
          rw [hval, ← Option.some.inj hf]; rfl
        next hemp =>
          cases h
          refine Out.store .union o.ok o.step hpid hnot (if_neg hemp).symm hdl ?_
          rw [hE.helper_equa, hval]; rfl
      next i hl =>
        obtain ⟨main, hmain, hpm⟩ := largestPure_spec args hargs.expanded i hl
        obtain ⟨pre, post, rfl, herase⟩ := eraseIdx_split args i main hmain
        rw [show (pre ++ main :: post).getD i (.lit 0) = main by rw [List.getD_eq_getElem?_getD, hmain]; rfl,
          herase] at h
        obtain ⟨htm, hrest, hdisj⟩ := hargs.split
        simp only [Except.bind_eq_ok_iff, Prod.exists] at h
        obtain ⟨mid, st0, h0, h⟩ := h
        -- the second conjunct of `toT4_ok` is there for this place: the union copies the EQUA part of the volume of its
        -- main part, which therefore has to be a `PlainVol`
        obtain ⟨o0, pm0⟩ := toT4_ok fuel main origin st mid st0 hst htm h0
        obtain ⟨mid', rfl, mv, hmg, -, hme⟩ := pm0 hpm
        simp only [Except.bind_eq_ok_iff, Prod.exists] at h
        obtain ⟨ids1, st1, h1, ids2, st2, h2, h⟩ := h
        have o1 : OutL σ cv _ st0 st1 _ ids1 :=
          toT4List_ok fuel (pre ++ post) origin st0 ids1 st1 o0.ok (hrest.step o0.step hdisj) h1
        have o := OutL.append o1 (cellrefList_ok fuel (crefsOf (pre ++ main :: post)) st1 ids2 st2 o1.ok h2)
        have hstep : Step σ (FTree.idsList (pre ++ main :: post)) st st2 :=
          (o0.step.trans o.step).mono fun i hi => mem_idsList_split (by simpa using hi)
        obtain ⟨cs, hdl, hany⟩ := ResVals.any _ _ o.res
        cases h
        refine ⟨Out.store .union o.ok hstep hpid hnot rfl hdl ?_, fun hp => by simp [FTree.isPureMain] at hp⟩
        rw [hmg]
        -- the cell references are in `pre ++ post` already; `cellrefList` converts them once more, which adds no
        -- new disjunct
        rw [FTree.eval, ← evalAny_or_crefs env.matching σ cv (pre ++ main :: post)]
        simp only [Option.getD_some, ← hme, equa, combine, hany, FTree.evalAny_eq, List.any_map, List.any_append,
          List.any_cons, Function.comp_def, id]
        ac_rfl

theorem toT4List_ok : ∀ (fuel : Nat) (ts : List FTree) (origin : List (Nat × Nat)) (st : CState)
    (rs : List (Option Nat)) (st' : CState), StOK σ cv st → ListOK ts st →
    toT4List env fuel ts origin st = .ok (rs, st') →
    StOK σ cv st' ∧ Step σ (FTree.idsList ts) st st' ∧
    ResVals σ st'.vols (ts.map (FTree.eval env.matching σ cv)) rs
  | 0, _, _, _, _, _, _, _, h => by simp [toT4List] at h
  | fuel + 1, [], origin, st, rs, st', hst, _, h => by
      simp only [toT4List, Except.ok.injEq, Prod.mk.injEq] at h
      obtain ⟨rfl, rfl⟩ := h
      exact OutL.nil hst _
  | fuel + 1, t :: ts, origin, st, rs, st', hst, hl, h => by
      simp only [toT4List, Except.bind_eq_ok_iff, Prod.exists, Except.ok.injEq, Prod.mk.injEq] at h
      obtain ⟨r1, st1, h1, rs2, st2, h2, rfl, rfl⟩ := h
      obtain ⟨ht, hts, hdisj⟩ := ListOK.split (pre := []) hl
      obtain ⟨o1, _⟩ := toT4_ok fuel t origin st r1 st1 hst ht h1
      exact o1.cons (toT4List_ok fuel ts origin st1 rs2 st2 o1.ok (hts.step o1.step hdisj) h2)

theorem cellrefList_ok : ∀ (fuel : Nat) (cs : List Nat) (st : CState) (rs : List (Option Nat)) (st' : CState),
    StOK σ cv st → cellrefList env fuel cs st = .ok (rs, st') →
    StOK σ cv st' ∧ Step σ [] st st' ∧ ResVals σ st'.vols (cs.map cv) rs
  | 0, _, _, _, _, _, h => by simp [cellrefList] at h
  | fuel + 1, [], st, rs, st', hst, h => by
      simp only [cellrefList, Except.ok.injEq, Prod.mk.injEq] at h
      obtain ⟨rfl, rfl⟩ := h
      exact OutL.nil hst _
  | fuel + 1, c :: cs, st, rs, st', hst, h => by
      simp only [cellrefList, Except.bind_eq_ok_iff, Prod.exists, Except.ok.injEq, Prod.mk.injEq] at h
      obtain ⟨r1, st1, h1, rs2, st2, h2, rfl, rfl⟩ := h
      have o1 := convertCellref_ok fuel c st r1 st1 hst h1
      exact o1.cons (cellrefList_ok fuel cs st1 rs2 st2 o1.ok h2)
end

end T4V
