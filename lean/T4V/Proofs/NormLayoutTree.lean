import T4V.Proofs.NormLayout
import T4V.Proofs.GeomParse
/-!
# Layouts of a cell expression: the source tree with a gap of blanks after every token

`LU / LI / LO` mirror `SU / SI / SO`; `toks` flattens a layout to the token list of `NL.normalize_tokens`, `erase`
forgets the gaps.
-/
namespace T4V.NL

mutual
inductive LU | mk (first : LI) (rest : List LI)
/-- `gc`: the blanks after the `:` that precedes this intersection (unused for the first one) -/
inductive LI | mk (gc : List Char) (first : LO) (rest : List LO)
inductive LO
  | lit (l : Lit) (g : List Char)
  | par (g1 : List Char) (u : LU) (g2 : List Char)               -- `(` g1 u `)` g2
  | compl (gh g1 : List Char) (u : LU) (g2 : List Char)          -- `#` gh `(` g1 u `)` g2
  | ccell (gh : List Char) (ds : List Char) (g : List Char)      -- `#` gh n g
end

def LI.gc : LI → List Char | .mk gc _ _ => gc

mutual
def LU.toks : LU → List TChunk
  | .mk i is => i.toks ++ toksIs is
def toksIs : List LI → List TChunk
  | [] => []
  | i :: is => (.colon, i.gc) :: (i.toks ++ toksIs is)
def LI.toks : LI → List TChunk
  | .mk _ o os => o.toks ++ toksOs os
def toksOs : List LO → List TChunk
  | [] => []
  | o :: os => o.toks ++ toksOs os
def LO.toks : LO → List TChunk
  | .lit l g => [(.lit l.chars, g)]
  | .par g1 u g2 => (.op, g1) :: (u.toks ++ [(.cl, g2)])
  | .compl gh g1 u g2 => (.hash, gh) :: (.op, g1) :: (u.toks ++ [(.cl, g2)])
  | .ccell gh ds g => [(.hash, gh), (.lit ds, g)]
end

mutual
def LU.erase : LU → SU
  | .mk i is => .mk i.erase (eraseIs is)
def eraseIs : List LI → List SI
  | [] => []
  | i :: is => i.erase :: eraseIs is
def LI.erase : LI → SI
  | .mk _ o os => .mk o.erase (eraseOs os)
def eraseOs : List LO → List SO
  | [] => []
  | o :: os => o.erase :: eraseOs os
def LO.erase : LO → SO
  | .lit l _ => .lit l
  | .par _ u _ => .par u.erase
  | .compl _ _ u _ => .compl u.erase
  | .ccell _ ds _ => .ccell ds
end

-- the tokens after `subCompl`
mutual
def LU.ptoks : LU → List Tk
  | .mk i is => i.ptoks ++ ptoksIs is
def ptoksIs : List LI → List Tk
  | [] => []
  | i :: is => .colon :: (i.ptoks ++ ptoksIs is)
def LI.ptoks : LI → List Tk
  | .mk _ o os => o.ptoks ++ ptoksOs os
def ptoksOs : List LO → List Tk
  | [] => []
  | o :: os => o.ptoks ++ ptoksOs os
def LO.ptoks : LO → List Tk
  | .lit l _ => [.lit l.chars]
  | .par _ u _ => .op :: (u.ptoks ++ [.cl])
  | .compl _ _ u _ => .uop :: (u.ptoks ++ [.cl])
  | .ccell _ ds _ => [.cc ds]
end

mutual
def LU.GapsWs : LU → Prop
  | .mk i is => i.GapsWs ∧ gapsWsIs is
def gapsWsIs : List LI → Prop
  | [] => True
  | i :: is => AllWs i.gc ∧ i.GapsWs ∧ gapsWsIs is
def LI.GapsWs : LI → Prop
  | .mk _ o os => o.GapsWs ∧ gapsWsOs os
def gapsWsOs : List LO → Prop
  | [] => True
  | o :: os => o.GapsWs ∧ gapsWsOs os
def LO.GapsWs : LO → Prop
  | .lit _ g => AllWs g
  | .par g1 u g2 => AllWs g1 ∧ u.GapsWs ∧ AllWs g2
  | .compl gh g1 u g2 => AllWs gh ∧ AllWs g1 ∧ u.GapsWs ∧ AllWs g2
  | .ccell gh _ g => AllWs gh ∧ AllWs g
end

mutual
theorem LU.post : ∀ (u : LU) (rest : List Tk), postToks (u.toks.map (·.1) ++ rest) = u.ptoks ++ postToks rest
  | .mk i is, rest => by
      simp only [LU.toks, LU.ptoks, List.map_append, List.append_assoc]
      rw [LI.post i, postIs is]
theorem postIs : ∀ (is : List LI) (rest : List Tk), postToks ((toksIs is).map (·.1) ++ rest) = ptoksIs is ++ postToks rest
  | [], rest => rfl
  | i :: is, rest => by
      simp only [toksIs, ptoksIs, List.map_cons, List.map_append, List.cons_append, List.append_assoc, postToks]
      rw [LI.post i, postIs is]
theorem LI.post : ∀ (i : LI) (rest : List Tk), postToks (i.toks.map (·.1) ++ rest) = i.ptoks ++ postToks rest
  | .mk _ o os, rest => by
      simp only [LI.toks, LI.ptoks, List.map_append, List.append_assoc]
      rw [LO.post o, postOs os]
theorem postOs : ∀ (os : List LO) (rest : List Tk), postToks ((toksOs os).map (·.1) ++ rest) = ptoksOs os ++ postToks rest
  | [], rest => rfl
  | o :: os, rest => by
      simp only [toksOs, ptoksOs, List.map_append, List.append_assoc]
      rw [LO.post o, postOs os]
theorem LO.post : ∀ (o : LO) (rest : List Tk), postToks (o.toks.map (·.1) ++ rest) = o.ptoks ++ postToks rest
  | .lit _ _, rest | .ccell _ _ _, rest => by simp [LO.toks, LO.ptoks, postToks]
  | .par _ u _, rest | .compl _ _ u _, rest => by
      simp only [LO.toks, LO.ptoks, List.map_cons, List.map_append, List.map_nil, List.cons_append,
        List.append_assoc, List.nil_append, postToks]
      rw [LU.post u]
      simp [postToks]
end

/-! ### the canonical spelling of the tokens is `SU.chars` -/

/-- the canonical spelling of a token list, the separator of two neighbours between them (`canonFrom` puts it in front
of the second); the form `canon_toks` is stated in -/
def canonT : List Tk → List Char
  | [] => []
  | [t] => t.chars
  | a :: b :: ts => a.chars ++ (sepOf a b ++ canonT (b :: ts))

theorem canonFrom_eq : ∀ (ts : List Tk) (p : Option Tk),
    canonFrom p ts = (match ts with | [] => [] | t :: _ => sepO p t) ++ canonT ts
  | [], _ => rfl
  | [t], _ => by simp [canonFrom, canonT]
  | t :: t' :: ts, _ => by rw [canonFrom, canonFrom_eq (t' :: ts) (some t)]; rfl

theorem canonT_eq (ts : List Tk) : canonT ts = canonFrom none ts := by
  rw [canonFrom_eq]
  cases ts <;> rfl

/-- `lastOr` for tokens -/
def lastTk (p : Option Tk) (ts : List Tk) : Option Tk := match ts.getLast? with | some t => some t | none => p

theorem lastTk_append (p : Option Tk) (xs ys : List Tk) : lastTk p (xs ++ ys) = lastTk (lastTk p xs) ys := by
  simp only [lastTk, List.getLast?_append]
  cases ys.getLast? <;> cases xs.getLast? <;> rfl

theorem lastTk_cons (p : Option Tk) (t : Tk) (ts : List Tk) : lastTk p (t :: ts) = lastTk (some t) ts :=
  lastTk_append p [t] ts

theorem canonFrom_append : ∀ (xs : List Tk) (p : Option Tk) (ys : List Tk),
    canonFrom p (xs ++ ys) = canonFrom p xs ++ canonFrom (lastTk p xs) ys
  | [], p, ys => by simp [canonFrom, lastTk]
  | t :: xs, p, ys => by
      simp only [List.cons_append, canonFrom, canonFrom_append xs (some t) ys, lastTk_cons, List.append_assoc]

-- first token of a layout (after `subCompl`)
mutual
def LU.firstTk : LU → Tk | .mk i _ => i.firstTk
def LI.firstTk : LI → Tk | .mk _ o _ => o.firstTk
def LO.firstTk : LO → Tk
  | .lit l _ => .lit l.chars
  | .par .. => .op
  | .compl .. => .uop
  | .ccell _ ds _ => .cc ds
end

/-- a prefix of tokens whose spelling is `cs`, entered after `p` and left after a token that ends an operand; `first` is
its first token, a parameter because the separator in front of it, `sepO p first`, is split off -/
def Spells (p : Option Tk) (ts : List Tk) (first : Tk) (cs : List Char) : Prop :=
  canonFrom p ts = sepO p first ++ cs ∧ ∃ l, lastTk p ts = some l ∧ opEnd l = true

theorem sepO_star (l t : Tk) (hl : opEnd l = true) (ht : opStart t = true) : sepO (some l) t = ['*'] := by
  simp [sepO, sepOf, hl, ht]

theorem sepO_nostart (p : Option Tk) (t : Tk) (h : opStart t = false) : sepO p t = [] := by
  cases p with
  | none => rfl
  | some a => simp [sepO, sepOf, h]

theorem Spells.single (p : Option Tk) (t : Tk) (h : opEnd t = true) : Spells p [t] t t.chars :=
  ⟨by simp [canonFrom], t, rfl, h⟩

/-- a token that cannot end an operand (`(`, `_(`, `:`) in front: nothing is inserted after it -/
theorem Spells.cons {t first : Tk} {xs : List Tk} {cs : List Char} (ht : opEnd t = false)
    (h : Spells (some t) xs first cs) (p : Option Tk) : Spells p (t :: xs) t (t.chars ++ cs) := by
  obtain ⟨h1, l, hl, hle⟩ := h
  have hs : sepO (some t) first = [] := by simp [sepO, sepOf, ht]
  exact ⟨by rw [canonFrom, h1, hs, List.nil_append], l, by rw [lastTk_cons, hl], hle⟩

/-- tokens `ys` whose spelling after any token that ends an operand is `ds`, and which end an operand again
(the statement of `canonOs`) -/
def Follows (ys : List Tk) (ds : List Char) : Prop :=
  ∀ l, opEnd l = true → canonFrom (some l) ys = ds ∧ ∃ l', lastTk (some l) ys = some l' ∧ opEnd l' = true

theorem Spells.append {p : Option Tk} {xs ys : List Tk} {first : Tk} {cs ds : List Char} (h : Spells p xs first cs)
    (hys : Follows ys ds) : Spells p (xs ++ ys) first (cs ++ ds) := by
  obtain ⟨h1, l, hl, hle⟩ := h
  obtain ⟨h2, l', hl', hle'⟩ := hys l hle
  exact ⟨by rw [canonFrom_append, h1, hl, h2, List.append_assoc], l', by rw [lastTk_append, hl, hl'], hle'⟩

theorem follows_cl : Follows [.cl] [')'] := fun l _ =>
  ⟨by rw [canonFrom, sepO_nostart _ _ rfl]; rfl, .cl, rfl, rfl⟩

/-- `canonIs` carries the proviso `is ≠ []` that `canonOs` does not: for `[]` the last token is `l` itself -/
theorem follows_is {is : List LI} {ds : List Char}
    (h : ∀ l, opEnd l = true → canonFrom (some l) (ptoksIs is) = ds ∧
      (is ≠ [] → ∃ l', lastTk (some l) (ptoksIs is) = some l' ∧ opEnd l' = true)) :
    Follows (ptoksIs is) ds := by
  intro l hl
  cases is with
  | nil => exact ⟨(h l hl).1, l, rfl, hl⟩
  | cons i is => exact ⟨(h l hl).1, (h l hl).2 (List.cons_ne_nil i is)⟩

mutual
theorem LU.canon : ∀ (u : LU) (p : Option Tk), Spells p u.ptoks u.firstTk u.erase.chars
  | .mk i is, p => (LI.canon i p).append (follows_is (canonIs is))
theorem canonIs : ∀ (is : List LI) (l : Tk), opEnd l = true →
    canonFrom (some l) (ptoksIs is) = charsIs (eraseIs is) ∧
    (is ≠ [] → ∃ l', lastTk (some l) (ptoksIs is) = some l' ∧ opEnd l' = true)
  | [], l, _ => ⟨rfl, fun h => absurd rfl h⟩
  | i :: is, l, _ =>
      have h := ((LI.canon i (some .colon)).append (follows_is (canonIs is))).cons (t := .colon) rfl (some l)
      ⟨h.1.trans (by rw [sepO_nostart _ _ rfl]; rfl), fun _ => h.2⟩
theorem LI.canon : ∀ (i : LI) (p : Option Tk), Spells p i.ptoks i.firstTk i.erase.chars
  | .mk _ o os, p => (LO.canon o p).append (canonOs os)
theorem canonOs : ∀ (os : List LO) (l : Tk), opEnd l = true →
    canonFrom (some l) (ptoksOs os) = charsOs (eraseOs os) ∧
    ∃ l', lastTk (some l) (ptoksOs os) = some l' ∧ opEnd l' = true
  | [], l, hl => ⟨rfl, l, rfl, hl⟩
  | o :: os, l, hl =>
      have h := (LO.canon o (some l)).append (canonOs os)
      ⟨h.1.trans (by rw [sepO_star _ _ hl (by cases o <;> rfl)]; rfl), h.2⟩
theorem LO.canon : ∀ (o : LO) (p : Option Tk), Spells p o.ptoks o.firstTk o.erase.chars
  | .lit l _, p => Spells.single p (.lit l.chars) rfl
  | .ccell _ ds _, p => Spells.single p (.cc ds) rfl
  | .par _ u _, p => ((LU.canon u (some .op)).append follows_cl).cons rfl p
  | .compl _ _ u _, p => ((LU.canon u (some .uop)).append follows_cl).cons rfl p
end

/-- **the canonical spelling of the layout's tokens is the canonical spelling of the expression** -/
theorem canon_toks (u : LU) : canonT (postToks (u.toks.map (·.1))) = u.erase.chars := by
  have h1 := LU.post u []
  simp only [List.append_nil, postToks] at h1
  rw [h1, canonT_eq, (LU.canon u none).1]
  rfl

/-! ### tokens of a well-formed expression are well-formed -/

theorem lit_tok_ok (l : Lit) (h : l.WF) : (Tk.lit l.chars).OK := by
  refine ⟨fun he => ?_, fun c hc => ?_⟩
  · have := Lit.chars_pos l h
    rw [he] at this
    cases this
  · obtain ⟨sign, ds, facet⟩ := l
    simp only [Lit.chars, List.mem_append] at hc
    rcases hc with (hc | hc) | hc
    · rcases sign with _ | _ | _
      · cases hc
      all_goals cases List.mem_singleton.mp hc; decide
    · exact digit_litChar c (h.2.1 c hc)
    · cases facet with
      | none => simp at hc
      | some d =>
        rcases (by simpa using hc : c = '.' ∨ c = d) with rfl | rfl
        · decide
        · exact digit_litChar _ (h.2.2 c rfl)

mutual
theorem LU.toks_ok : ∀ (u : LU), u.erase.WF → u.GapsWs → TChunksOK u.toks
  | .mk i is, hw, hg => (LI.toks_ok i hw.1 hg.1).append (toksIs_ok is hw.2 hg.2)
theorem toksIs_ok : ∀ (is : List LI), wfIs (eraseIs is) → gapsWsIs is → TChunksOK (toksIs is)
  | [], _, _ => .nil
  | i :: is, hw, hg => .cons trivial hg.1 ((LI.toks_ok i hw.1 hg.2.1).append (toksIs_ok is hw.2 hg.2.2))
theorem LI.toks_ok : ∀ (i : LI), i.erase.WF → i.GapsWs → TChunksOK i.toks
  | .mk _ o os, hw, hg => (LO.toks_ok o hw.1 hg.1).append (toksOs_ok os hw.2 hg.2)
theorem toksOs_ok : ∀ (os : List LO), wfOs (eraseOs os) → gapsWsOs os → TChunksOK (toksOs os)
  | [], _, _ => .nil
  | o :: os, hw, hg => (LO.toks_ok o hw.1 hg.1).append (toksOs_ok os hw.2 hg.2)
theorem LO.toks_ok : ∀ (o : LO), o.erase.WF → o.GapsWs → TChunksOK o.toks
  | .lit l _, hw, hg => .cons (lit_tok_ok l hw) hg .nil
  | .par _ u _, hw, hg => .cons trivial hg.1 ((LU.toks_ok u hw hg.2.1).append (.cons trivial hg.2.2 .nil))
  | .compl _ _ u _, hw, hg =>
      .cons trivial hg.1 (.cons trivial hg.2.1 ((LU.toks_ok u hw hg.2.2.1).append (.cons trivial hg.2.2.2 .nil)))
  | .ccell _ _ _, hw, hg => .cons trivial hg.1 (.cons ⟨hw.1, fun c hc => digit_litChar c (hw.2 c hc)⟩ hg.2 .nil)
end

/-- the text of a layout: leading blanks, then every token followed by its blanks -/
def LU.text (g0 : List Char) (u : LU) : List Char := render g0 (toChunks u.toks)

end T4V.NL
