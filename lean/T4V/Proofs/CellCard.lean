import T4V.Proofs.Scan
import T4V.Proofs.CharClass
/-!
# `cellcard.split` on a card written as name, material, [density], geometry, options, and `surfacecard.split` on a
surface card written field by field (lemmas for property C14)
-/
namespace T4V.CC
open T4V.Scan

theorem word_of (b w g : List Char) (hb : ∀ c ∈ b, cws c = true) (hw : ∀ c ∈ w, cws c = false) (hne : w ≠ [])
    (hg : Stop (fun c => !cws c) g) : word (b ++ (w ++ g)) = (w, g) := by
  have s0 := scan (g := w ++ g) hb (.of_ne_nil hne hw)
  have s1 := scan (p := fun c => !cws c) (a := w) (fun c hc => by simp [hw c hc]) hg
  simp only [word, s0.2, s1.1, s1.2]

/-- `q` has no place where options could start; its last character and `o` form the first one -/
theorem findOptions_after (q : List Char) (p2 o : Char) (rest : List Char) (hn : findOptions q = none)
    (hl : q.getLast? = some p2) (hp2 : (p2 == ')' || cws p2) = true) (ho : (o == '*' || isLetter o) = true) :
    findOptions (q ++ o :: rest) = some (q.dropLast, p2, o :: rest) := by
  induction q with
  | nil => cases hl
  | cons a t ih =>
    cases t with
    | nil =>
      obtain rfl : a = p2 := by simpa using hl
      rw [List.singleton_append, findOptions, if_pos (by rw [hp2, ho]; rfl)]
      rfl
    | cons b r =>
      rw [findOptions] at hn
      rw [List.cons_append, List.cons_append, findOptions]
      split at hn
      · cases hn
      next hc =>
        rw [if_neg hc, ← List.cons_append, ih (Option.map_eq_none_iff.mp hn) (by simpa using hl)]
        rfl

theorem nameGroup_of (ds rest : List Char) (hne : ds ≠ []) (hd : ∀ c ∈ ds, isDigit c = true) :
    nameGroup (ds ++ ' ' :: rest) = some (ds, ' ' :: rest) := by
  have s0 := scan_nil (p := cws) (g := ds ++ ' ' :: rest) (.of_ne_nil hne fun c hc => digit_not_ws c (hd c hc))
  have s1 := scan (g := ' ' :: rest) hd (.cons (by decide))
  simp [nameGroup, s0.1, s0.2, s1.1, s1.2, hne]

theorem wsWord_of (w rest : List Char) (hne : w ≠ []) (hw : ∀ c ∈ w, cws c = false)
    (hrest : ∀ c r, rest = c :: r → cws c = true) :
    wsWord (' ' :: w ++ rest) = some (' ' :: w, rest) := by
  have s0 := scan (p := cws) (a := [' ']) (g := w ++ rest) (by simp [cws]) (.of_ne_nil hne hw)
  have s1 := scan (p := fun c => !cws c) (a := w) (g := rest) (fun c hc => by simp [hw c hc])
    (stop_iff.mpr fun c r h => by simp [hrest c r h])
  simp only [List.singleton_append] at s0
  simp [wsWord, s0.1, s0.2, s1.1, s1.2, hne]

theorem wsDensity_of (w rest : List Char) (hne : w ≠ []) (hw : ∀ c ∈ w, cws c = false ∧ c ≠ '(')
    (hrest : ∀ c r, rest = c :: r → cws c = true ∨ c = '(') :
    wsDensity (' ' :: w ++ rest) = some (' ' :: w, rest) := by
  have s0 := scan (p := cws) (a := [' ']) (g := w ++ rest) (by simp [cws]) (.of_ne_nil hne fun c hc => (hw c hc).1)
  have s1 := scan (p := fun c => !cws c && c != '(') (a := w) (g := rest) (fun c hc => by simp [hw c hc])
    (stop_iff.mpr fun c r h => by rcases hrest c r h with h | h <;> simp [h])
  simp only [List.singleton_append] at s0
  simp [wsDensity, s0.1, s0.2, s1.1, s1.2, hne]

theorem floatZero_first (m : List Char) (z : Bool) (h : floatZero? m = some z) :
    ∃ a rest, m = a :: rest ∧ (isDigit a = true ∨ a = '+' ∨ a = '-' ∨ a = '.') := by
  cases m with
  | nil => simp [floatZero?, stripSign, fracPart] at h
  | cons a rest =>
    refine ⟨a, rest, rfl, Classical.byContradiction fun hno => ?_⟩
    -- any other first character leaves the mantissa without a digit
    simp only [not_or] at hno
    obtain ⟨hd, hp, hmn, hdot⟩ := hno
    have ht : stripSign (a :: rest) = a :: rest := by
      unfold stripSign
      split
      · rename_i heq; cases heq; exact absurd rfl hp
      · rename_i heq; cases heq; exact absurd rfl hmn
      · rfl
    have hf : fracPart (a :: rest) = ([], a :: rest) := by
      unfold fracPart
      split
      · rename_i heq; cases heq; exact absurd rfl hdot
      · rfl
    simp [floatZero?, ht, hd, hf] at h

theorem floatZero_not_like (m : List Char) (z : Bool) (h : floatZero? m = some z) : m.map lower ≠ "like".toList := by
  obtain ⟨a, rest, rfl, ha⟩ := floatZero_first m z h
  intro hl
  have h1 : lower a = 'l' := by
    have := congrArg List.head? hl
    simpa using this
  rcases ha with hd | rfl | rfl | rfl
  · rw [lower_of_lt a (by rw [isDigit_iff] at hd; omega)] at h1
    subst h1
    revert hd; decide
  · revert h1; decide
  · revert h1; decide
  · revert h1; decide

/-- the card in front of its options: number, material, density, and the rest (geometry) -/
def bodyNonvoid (ds m r g : List Char) : List Char := ds ++ ' ' :: (m ++ ' ' :: (r ++ g))
/-- the same for a void cell (no density) -/
def bodyVoid (ds m g : List Char) : List Char := ds ++ ' ' :: (m ++ g)

/-- how the options are attached to the text in front: there are none and the text has no place where options could
start, or they begin with a letter or `*` right after the final `)` or blank of the text, which has no earlier such
place -/
def OptsAt (body o : List Char) : Prop :=
  (o = [] ∧ findOptions body = none) ∨
  (∃ p1 p2 c rest, body = p1 ++ [p2] ∧ o = c :: rest ∧ findOptions (p1 ++ [p2]) = none ∧
    (p2 == ')' || cws p2) = true ∧ (c == '*' || isLetter c) = true)

theorem cutOptions_optsAt (body o : List Char) (h : OptsAt body o) : cutOptions (body ++ o) = (body, o) := by
  unfold cutOptions
  rcases h with ⟨rfl, hn⟩ | ⟨p1, p2, c, rest, rfl, rfl, hn, hp2, hc⟩
  · simp [hn]
  · rw [findOptions_after (p1 ++ [p2]) p2 c rest hn (by simp) hp2 hc]
    simp

/-- `cellcard.split` on a card that is not `LIKE n BUT`, up to the point where void cells and cells with a material part
ways: the two card layouts of C14 are the two branches of the `if` -/
theorem splitCell_plain (ds m rest o : List Char) (z : Bool)
    (hds : ds ≠ [] ∧ ∀ c ∈ ds, isDigit c = true)
    (hm : m ≠ [] ∧ ∀ c ∈ m, cws c = false) (hz : floatZero? m = some z)
    (hthird : ((rest ++ o).dropWhile cws).isEmpty = false)
    (hopt : OptsAt (ds ++ ' ' :: (m ++ ' ' :: rest)) o) :
    splitCell (ds ++ ' ' :: (m ++ ' ' :: rest) ++ o) =
      if z then .ok { name := ds, mat := ' ' :: m, geom := ' ' :: rest, opts := o }
      else match wsDensity (' ' :: rest) with
        | none => .error .noMatch
        | some (m2, rest3) => .ok { name := ds, mat := ' ' :: m ++ m2, geom := rest3, opts := o } := by
  have w1 : word (ds ++ ' ' :: (m ++ ' ' :: rest) ++ o) = (ds, ' ' :: (m ++ ' ' :: (rest ++ o))) := by
    simpa using word_of [] ds (' ' :: (m ++ ' ' :: (rest ++ o))) (by simp)
      (fun c hc => digit_not_ws c (hds.2 c hc)) hds.1 (.cons (by decide))
  have w2 : word (' ' :: (m ++ ' ' :: (rest ++ o))) = (m, ' ' :: (rest ++ o)) :=
    word_of [' '] m _ (by simp [cws]) hm.2 hm.1 (.cons (by decide))
  have w3 : ((' ' :: (rest ++ o)).dropWhile cws).isEmpty = false := by
    simpa [List.dropWhile, cws] using hthird
  have hlike : (m.map lower == "like".toList) = false := by simpa using floatZero_not_like m z hz
  have hng := nameGroup_of ds (m ++ ' ' :: rest) hds.1 hds.2
  have hww : wsWord (' ' :: (m ++ ' ' :: rest)) = some (' ' :: m, ' ' :: rest) := by
    simpa using wsWord_of m (' ' :: rest) hm.1 hm.2 (fun c r' h => by cases h; decide)
  simp only [splitCell, w1, w2, w3, List.isEmpty_eq_false_iff.mpr hm.1, Bool.false_or, Bool.false_eq_true, if_false,
    hlike, hz, cutOptions_optsAt _ o hopt, hng, hww]
  cases z <;> rfl

/-! ### `LIKE n BUT` cards -/

/-- `b`, `u`, `t` in any letter case -/
def isBut (x y z : Char) : Bool := lower x == 'b' && lower y == 'u' && lower z == 't'

theorem lastBut_cons_none (c : Char) (r : List Char) (hr : lastBut r = none)
    (hc : ∀ y z rest, r = y :: z :: rest → isBut c y z = false) : lastBut (c :: r) = none := by
  rw [lastBut]
  simp only [hr]
  match r, hc with
  | [], _ => rfl
  | [_], _ => rfl
  | y :: z :: rest, hc =>
    have := hc y z rest rfl
    simp only [isBut] at this
    simp [this]

/-- after `x y z` no later `but` can begin at `y`, at `z` or inside `o` (`ho2`, `ho1`, `ho`) -/
theorem lastBut_at (mid : List Char) (x y z : Char) (o : List Char) (hb : isBut x y z = true)
    (ho : lastBut o = none)
    (ho1 : ∀ a b rest, o = a :: b :: rest → isBut z a b = false)
    (ho2 : ∀ a rest, o = a :: rest → isBut y z a = false) :
    lastBut (mid ++ x :: y :: z :: o) = some (mid ++ [x, y, z], o) := by
  induction mid with
  | nil =>
    have hz : lastBut (z :: o) = none := lastBut_cons_none z o ho (fun a b rest h => ho1 a b rest h)
    have hy : lastBut (y :: z :: o) = none := lastBut_cons_none y (z :: o) hz (fun a b rest h => by
      cases h; exact ho2 _ _ rfl)
    rw [List.nil_append, lastBut]
    simp only [hy]
    simp only [isBut] at hb
    simp [hb]
  | cons c cs ih =>
    rw [List.cons_append, lastBut]
    simp [ih]

/-! ### `surfacecard.split` on a card written field by field (`datacard.split`: under `C14.data_card_split`) -/

/-- `[*+]n [[±]t blanks] mnemonic parameters`.  `h1`: what follows the first blank does not begin with another one
(with neither sign nor number there are no blanks `ws` either). -/
theorem split_surface (flags ds sg td ws mn params : List Char)
    (hf : ∀ c ∈ flags, isFlag c = true) (hds : ds ≠ [] ∧ ∀ c ∈ ds, isDigit c = true)
    (hsg : ∀ c ∈ sg, isSign c = true) (htd : ∀ c ∈ td, isDigit c = true) (hws : ∀ c ∈ ws, cws c = true)
    (hmn : mn ≠ [] ∧ ∀ c ∈ mn, isMnChar c = true) (hp : ∀ c r, params = c :: r → cws c = false)
    (h1 : Stop cws (sg ++ (td ++ (ws ++ (mn ++ ' ' :: params))))) :
    splitSurface (flags ++ (ds ++ ' ' :: (sg ++ (td ++ (ws ++ (mn ++ ' ' :: params))))))
      = some { name := flags ++ ds, tr := sg ++ td ++ ws, mn := mn, params := params } := by
  have s0 := scan_nil (p := cws) (g := flags ++ (ds ++ ' ' :: (sg ++ (td ++ (ws ++ (mn ++ ' ' :: params))))))
    (.append (fun c hc => flag_not_ws c (hf c hc)) (.of_ne_nil hds.1 fun c hc => digit_not_ws c (hds.2 c hc)))
  have s1 := scan (g := ds ++ ' ' :: (sg ++ (td ++ (ws ++ (mn ++ ' ' :: params))))) hf
    (.of_ne_nil hds.1 fun c hc => digit_not_flag c (hds.2 c hc))
  have s2 := scan (g := ' ' :: (sg ++ (td ++ (ws ++ (mn ++ ' ' :: params))))) hds.2 (.cons (by decide))
  have s3 := scan (p := cws) (a := [' ']) (by simp [cws]) h1
  have s4 := scan (g := td ++ (ws ++ (mn ++ ' ' :: params))) hsg
    (.append (fun c hc => digit_not_sign c (htd c hc)) (.append (fun c hc => ws_not_sign c (hws c hc))
      (.of_ne_nil hmn.1 fun c hc => mn_not_sign c (hmn.2 c hc))))
  have s5 := scan (g := ws ++ (mn ++ ' ' :: params)) htd
    (.append (fun c hc => ws_not_digit c (hws c hc)) (.of_ne_nil hmn.1 fun c hc => mn_not_digit c (hmn.2 c hc)))
  have s6 := scan (g := mn ++ ' ' :: params) hws (.of_ne_nil hmn.1 fun c hc => mn_not_ws c (hmn.2 c hc))
  have s7 := scan (g := ' ' :: params) hmn.2 (.cons (by decide))
  have s8 := scan (p := cws) (a := [' ']) (by simp [cws]) (stop_iff.mpr hp)
  simp only [List.singleton_append] at s3 s8
  simp only [splitSurface, s0.2, s1.1, s1.2, s2.1, s2.2, s3.1, s3.2, s4.1, s4.2, s5.1, s5.2, s6.1, s6.2, s7.1, s7.2, s8.1,
    s8.2, List.isEmpty_eq_false_iff.mpr hds.1, List.isEmpty_eq_false_iff.mpr hmn.1, List.isEmpty_cons,
    Bool.false_eq_true, if_false]

end T4V.CC
