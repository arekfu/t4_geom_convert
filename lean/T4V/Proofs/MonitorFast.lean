import T4V.Spec.Monitor
/-!
# The point monitor's tables (senses, volumes by number) give the specification's owners and undecided volumes
-/
namespace T4V.MonitorFast

private theorem foldl_insertIfNew_get {α β} (key : α → Nat) (val : α → β) (l : List α) (m : Std.HashMap Nat β)
    (n : Nat) :
    (l.foldl (fun m a => m.insertIfNew (key a) (val a)) m)[n]? =
      (m[n]?).or ((l.find? (key · == n)).map val) := by
  induction l generalizing m with
  | nil => simp
  | cons a r ih =>
    rw [List.foldl_cons, ih, Std.HashMap.getElem?_insertIfNew]
    by_cases hk : key a = n
    · subst hk
      by_cases hm : key a ∈ m <;> simp [hm]
    · have hb : (key a == n) = false := by simpa using hk
      simp [hb]

theorem senseOf_senseTable (f : T4File Float) (p : V3 Float) : senseOf (senseTable f p) = f.sense p := by
  funext n
  unfold senseOf T4File.sense senseTable
  have h := foldl_insertIfNew_get (fun ns : Nat × TSurf Float => ns.1)
    (fun ns => (ns.2.f p).map fun v => decide ((0:Float) < v)) f.surfs ∅ n
  rw [h]
  cases f.surfs.find? (·.1 == n) <;> simp

theorem volTable_get (vols : List TVol) (n : Nat) : (volTable vols)[n]? = findVol vols n := by
  unfold volTable findVol
  have h := foldl_insertIfNew_get (fun v : TVol => v.id) id vols ∅ n
  simpa using h

theorem memberFast_eq (vols : List TVol) (σ : SenseFn) (fuel k : Nat) :
    memberFast (volTable vols) σ fuel k = member vols σ fuel k := by
  induction fuel generalizing k with
  | zero => rfl
  | succ n ih =>
    have hf : memberFast (volTable vols) σ n = member vols σ n := funext ih
    unfold memberFast member
    rw [volTable_get, hf]
    rfl

theorem ownersFast_eq (f : T4File Float) (p : V3 Float) : f.ownersFast p = f.owners p := by
  unfold T4File.ownersFast T4File.owners; simp only [senseOf_senseTable, memberFast_eq]

theorem undecidedFast_eq (f : T4File Float) (p : V3 Float) : f.undecidedFast p = f.undecided p := by
  unfold T4File.undecidedFast T4File.undecided; simp only [senseOf_senseTable, memberFast_eq]

theorem ownersOf_verdicts (f : T4File Float) (p : V3 Float) : ownersOf (f.verdicts p) = f.owners p := by
  rw [← ownersFast_eq]
  unfold ownersOf T4File.verdicts T4File.ownersFast
  -- a filter after a map is a map after a filter; the two filters conjoin in the other order
  simp [List.filter_map, List.filter_filter, Function.comp_def, Bool.and_comm]

theorem undecidedOf_verdicts (f : T4File Float) (p : V3 Float) : undecidedOf (f.verdicts p) = f.undecided p := by
  rw [← undecidedFast_eq]
  unfold undecidedOf T4File.verdicts T4File.undecidedFast
  simp [List.filter_map, List.filter_filter, Function.comp_def, Bool.and_comm]

end T4V.MonitorFast
