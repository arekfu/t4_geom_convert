import T4V.Model.Tree
import T4V.Proofs.Bind
/-!
# Proofs about geometry trees: De Morgan inverse and complement elimination
-/
namespace T4V

theorem litSurf_neg (σ : SurfVal) (n : Int) (sub : Option Nat) (h : n ≠ 0) :
    litSurf σ (-n) sub = !litSurf σ n sub := by
  unfold litSurf
  by_cases hp : n > 0
  · have hn : ¬ (-n > 0) := by omega
    simp only [hp, hn, if_true, if_false, Int.natAbs_neg]
  · have hn : -n > 0 := by omega
    simp only [hp, hn, if_true, if_false, Int.natAbs_neg, Bool.not_not]

mutual
/-- all surface ids in the tree are non-zero (a reference to surface 0 does not exist in MCNP) -/
def Geom.nonzero : Geom → Bool
  | .surf n _ => n != 0
  | .cref _ => true
  | .compl _ => true
  | .node _ args => Geom.nonzeroList args
def Geom.nonzeroList : List Geom → Bool
  | [] => true
  | g :: gs => g.nonzero && Geom.nonzeroList gs
end

/-- what De Morgan inversion guarantees, for a tree and for an argument list (read as a conjunction or as a
disjunction): both sides are pure; non-zero surface numbers stay non-zero, and then the value is negated -/
structure InvPost (pure pure' nz nz' : Bool) (neg : Prop) : Prop where
  pure : pure' = true ∧ pure = true
  nonzero : nz = true → nz' = true
  eval : nz = true → neg

mutual
theorem inverse_spec : ∀ (g g' : Geom), g.inverse = some g' →
    InvPost g.pure g'.pure g.nonzero g'.nonzero (∀ σ cv, g'.eval σ cv = !g.eval σ cv)
  | .surf n sub, g', h => by
      simp only [Geom.inverse, Option.some.injEq] at h
      subst h
      refine ⟨by simp [Geom.pure], fun hz => ?_, fun hz σ cv => ?_⟩
      · simp only [Geom.nonzero, bne_iff_ne, ne_eq] at hz ⊢; omega
      · simp only [Geom.nonzero, bne_iff_ne, ne_eq] at hz
        simp [Geom.eval, litSurf_neg σ n sub hz]
  | .cref _, _, h => by simp [Geom.inverse] at h
  | .compl _, _, h => by simp [Geom.inverse] at h
  | .node op args, g', h => by
      simp only [Geom.inverse, Option.map_eq_some_iff] at h
      obtain ⟨args', hargs, rfl⟩ := h
      have ih := inverseList_spec args args' hargs
      refine ⟨by simpa [Geom.pure] using ih.pure, by simpa [Geom.nonzero] using ih.nonzero, fun hz σ cv => ?_⟩
      have := ih.eval (by simpa [Geom.nonzero] using hz) σ cv
      cases op with
      | inter => simp [Op.dual, Geom.eval, this.1]
      | union => simp [Op.dual, Geom.eval, this.2]
theorem inverseList_spec : ∀ (gs gs' : List Geom), Geom.inverseList gs = some gs' →
    InvPost (Geom.pureList gs) (Geom.pureList gs') (Geom.nonzeroList gs) (Geom.nonzeroList gs')
      (∀ σ cv, Geom.evalAny σ cv gs' = !Geom.evalAll σ cv gs ∧ Geom.evalAll σ cv gs' = !Geom.evalAny σ cv gs)
  | [], gs', h => by
      simp only [Geom.inverseList, Option.some.injEq] at h
      subst h
      exact ⟨by simp [Geom.pureList], fun h => h, fun _ _ _ => by simp [Geom.evalAll, Geom.evalAny]⟩
  | g :: gs, gs', h => by
      simp only [Geom.inverseList, Option.bind_eq_bind, Option.pure_def, Option.bind_eq_some_iff,
        Option.some.injEq] at h
      obtain ⟨g1, hg1, r1, hr1, rfl⟩ := h
      have h1 := inverse_spec g g1 hg1
      have h2 := inverseList_spec gs r1 hr1
      refine ⟨by simp [Geom.pureList, h1.pure, h2.pure], fun hz => ?_, fun hz σ cv => ?_⟩
      · simp only [Geom.nonzeroList, Bool.and_eq_true] at hz ⊢
        exact ⟨h1.nonzero hz.1, h2.nonzero hz.2⟩
      · simp only [Geom.nonzeroList, Bool.and_eq_true] at hz
        simp [Geom.evalAll, Geom.evalAny, h1.eval hz.1 σ cv, (h2.eval hz.2 σ cv).1, (h2.eval hz.2 σ cv).2]
end

theorem inverse_eval (σ : SurfVal) (cv : Nat → Bool) :
    ∀ (g g' : Geom), g.nonzero = true → g.inverse = some g' → g'.eval σ cv = !g.eval σ cv :=
  fun g g' hz h => (inverse_spec g g' h).eval hz σ cv

theorem inverseList_pure : ∀ (gs gs' : List Geom), Geom.inverseList gs = some gs' →
    Geom.pureList gs' = true ∧ Geom.pureList gs = true :=
  fun gs gs' h => (inverseList_spec gs gs' h).pure

theorem inverseList_nonzero : ∀ (gs gs' : List Geom), Geom.nonzeroList gs = true →
    Geom.inverseList gs = some gs' → Geom.nonzeroList gs' = true :=
  fun gs gs' hz h => (inverseList_spec gs gs' h).nonzero hz

theorem surfaces_nonzero : ∀ g : Geom, g.nonzero = true → ∀ p ∈ g.surfaces, p.1 ≠ 0 := by
  intro g
  refine Geom.rec (motive_1 := fun g => g.nonzero = true → ∀ p ∈ g.surfaces, p.1 ≠ 0)
    (motive_2 := fun gs => Geom.nonzeroList gs = true → ∀ p ∈ Geom.surfaces.surfacesList gs, p.1 ≠ 0)
    ?_ ?_ ?_ ?_ ?_ ?_ g
  · intro n sub h p hp
    simp only [Geom.surfaces, List.mem_singleton] at hp
    subst hp
    simpa [Geom.nonzero] using h
  · intro c _ p hp; simp [Geom.surfaces] at hp
  · intro c _ p hp; simp [Geom.surfaces] at hp
  · intro op args ih h p hp
    simp only [Geom.nonzero] at h
    simp only [Geom.surfaces] at hp
    exact ih h p hp
  · intro _ p hp; simp [Geom.surfaces.surfacesList] at hp
  · intro g gs ih1 ih2 h p hp
    simp only [Geom.nonzeroList, Bool.and_eq_true] at h
    simp only [Geom.surfaces.surfacesList, List.mem_append] at hp
    rcases hp with hp | hp
    · exact ih1 h.1 p hp
    · exact ih2 h.2 p hp

/-- a pure tree's value does not depend on the cell valuation -/
theorem eval_pure_irrel (σ : SurfVal) (cv cv' : Nat → Bool) :
    ∀ g : Geom, g.pure = true → g.eval σ cv = g.eval σ cv' := by
  intro g
  refine Geom.rec (motive_1 := fun g => g.pure = true → g.eval σ cv = g.eval σ cv')
    (motive_2 := fun gs => Geom.pureList gs = true →
      Geom.evalAll σ cv gs = Geom.evalAll σ cv' gs ∧ Geom.evalAny σ cv gs = Geom.evalAny σ cv' gs)
    ?_ ?_ ?_ ?_ ?_ ?_ g
  · intro n sub _; simp [Geom.eval]
  · intro c h; simp [Geom.pure] at h
  · intro c h; simp [Geom.pure] at h
  · intro op args ih h
    simp only [Geom.pure] at h
    cases op <;> simp [Geom.eval, (ih h).1, (ih h).2]
  · intro _; simp [Geom.evalAll, Geom.evalAny]
  · intro g gs ih1 ih2 h
    simp only [Geom.pureList, Bool.and_eq_true] at h
    simp [Geom.evalAll, Geom.evalAny, ih1 h.1, (ih2 h.2).1, (ih2 h.2).2]

/-- every cell of the deck only mentions non-zero surface numbers -/
def CellsOK (cells : List CellGeom) : Prop :=
  ∀ c ∈ cells, c.geom.nonzero = true

mutual
/-- no `CellRef` leaves (they only appear after `pot_fill`) -/
def Geom.noCref : Geom → Bool
  | .surf .. => true
  | .cref _ => false
  | .compl _ => true
  | .node _ args => Geom.noCrefList args
def Geom.noCrefList : List Geom → Bool
  | [] => true
  | g :: gs => g.noCref && Geom.noCrefList gs
end

/-- MCNP's meaning of `#c` is defined only one level down, for a cell that is there and is no lattice -/
theorem regionOf_compl {cells : List CellGeom} {σ : SurfVal} {f2 c : Nat} {b : Bool}
    (h : cellRegion.regionOf cells σ f2 (.compl c) = some b) :
    ∃ k cell b', f2 = k + 1 ∧ findCell cells c = some cell ∧ cell.isLattice = false ∧
      cellRegion.regionOf cells σ k cell.geom = some b' ∧ b = !b' := by
  cases f2 with
  | zero => simp [cellRegion.regionOf, cellRegion] at h
  | succ k =>
    simp only [cellRegion.regionOf, cellRegion, Option.map_eq_some_iff] at h
    obtain ⟨b', hb', rfl⟩ := h
    split at hb'
    · cases hb'
    next cell hf =>
      split at hb'
      · cases hb'
      next hl => exact ⟨k, cell, b', rfl, hf, by simpa using hl, hb', rfl⟩

mutual
/-- **Complement elimination is sound**: whenever `pot_complement` succeeds on a tree and MCNP's
meaning of that tree (with `#c` = complement of cell `c`'s region) is defined, the resulting tree is
pure (operators and surfaces only), mentions no surface 0 and has exactly that meaning, for every
assignment of senses. -/
theorem potComplement_eval (cells : List CellGeom) (hc : CellsOK cells) (σ : SurfVal) (cv : Nat → Bool) :
    ∀ (fuel : Nat) (g g' : Geom), g.nonzero = true → potComplement cells fuel g = .ok g' →
      (g.noCref = true → g'.pure = true) ∧ g'.nonzero = true ∧
      ∀ f2 b, cellRegion.regionOf cells σ f2 g = some b → g'.eval σ cv = b
  | 0, _, _, _, h => by simp [potComplement] at h
  | fuel + 1, .surf n sub, g', hz, h => by
      simp only [potComplement, Except.ok.injEq] at h
      subst h
      refine ⟨fun _ => by simp [Geom.pure], hz, ?_⟩
      intro f2 b hb
      simp only [cellRegion.regionOf, Option.some.injEq] at hb
      simp [Geom.eval, hb]
  | fuel + 1, .cref c, g', hz, h => by
      simp only [potComplement, Except.ok.injEq] at h
      subst h
      refine ⟨fun hn => by simp [Geom.noCref] at hn, hz, ?_⟩
      intro f2 b hb
      simp [cellRegion.regionOf] at hb
  | fuel + 1, .compl c, g', _, h => by
      simp only [potComplement] at h
      split at h
      · cases h
      next cell hf =>
        have hcell := hc cell (List.mem_of_find?_eq_some hf)
        split at h
        next hl =>
          -- complement of a lattice: MCNP's meaning is undefined in the spec, so only the form matters
          split at h
          · cases h
          next n sub _ hs =>
            cases h
            have hn : n ≠ 0 := surfaces_nonzero cell.geom hcell (n, sub) (by simp [hs])
            refine ⟨fun _ => by simp [Geom.pure, Geom.pureList], ?_, fun f2 b hb => ?_⟩
            · simp only [Geom.nonzero, Geom.nonzeroList, bne_iff_ne, ne_eq, Bool.and_true, Bool.and_eq_true]
              omega
            · obtain ⟨_, cell', _, -, hf', hl', -, -⟩ := regionOf_compl hb
              rw [hf] at hf'; cases hf'
              rw [hl] at hl'; cases hl'
        next hl =>
          simp only [Except.bind_eq_ok_iff] at h
          obtain ⟨g1, hp, h⟩ := h
          obtain ⟨_, hz1, hev⟩ := potComplement_eval cells hc σ cv fuel cell.geom g1 hcell hp
          split at h
          next r hi =>
            cases h
            refine ⟨fun _ => (inverse_spec g1 _ hi).pure.1, (inverse_spec g1 _ hi).nonzero hz1, fun f2 b hb => ?_⟩
            obtain ⟨k, cell', b', -, hf', -, hb', rfl⟩ := regionOf_compl hb
            rw [hf] at hf'; cases hf'
            rw [inverse_eval σ cv g1 _ hz1 hi, hev k b' hb']
          · cases h
  | fuel + 1, .node op args, g', hz, h => by
      simp only [potComplement, Except.bind_eq_ok_iff, Except.ok.injEq] at h
      obtain ⟨args', hp, rfl⟩ := h
      simp only [Geom.nonzero] at hz
      obtain ⟨hpu, hnz, hall, hany⟩ := potComplementList_eval cells hc σ cv fuel args args' hz hp
      refine ⟨fun hn => by simpa [Geom.pure] using hpu (by simpa [Geom.noCref] using hn),
        by simpa [Geom.nonzero] using hnz, ?_⟩
      intro f2 b hb
      cases op with
      | inter => simpa [Geom.eval] using hall f2 b (by simpa [cellRegion.regionOf] using hb)
      | union => simpa [Geom.eval] using hany f2 b (by simpa [cellRegion.regionOf] using hb)
-- lexicographic: the list function calls the tree function at the same fuel
termination_by fuel _ => (fuel, 0)
decreasing_by all_goals simp_wf; omega
theorem potComplementList_eval (cells : List CellGeom) (hc : CellsOK cells) (σ : SurfVal) (cv : Nat → Bool) :
    ∀ (fuel : Nat) (gs gs' : List Geom), Geom.nonzeroList gs = true →
      potComplementList cells fuel gs = .ok gs' →
      (Geom.noCrefList gs = true → Geom.pureList gs' = true) ∧ Geom.nonzeroList gs' = true ∧
      (∀ f2 b, cellRegion.regionAll cells σ f2 gs = some b → Geom.evalAll σ cv gs' = b) ∧
      (∀ f2 b, cellRegion.regionAny cells σ f2 gs = some b → Geom.evalAny σ cv gs' = b)
  | 0, _, _, _, h => by simp [potComplementList] at h
  | fuel + 1, [], gs', _, h => by
      simp only [potComplementList, Except.ok.injEq] at h
      subst h
      refine ⟨fun _ => by simp [Geom.pureList], by simp [Geom.nonzeroList], ?_, ?_⟩
      · intro f2 b hb; simp only [cellRegion.regionAll, Option.some.injEq] at hb; simp [Geom.evalAll, hb]
      · intro f2 b hb; simp only [cellRegion.regionAny, Option.some.injEq] at hb; simp [Geom.evalAny, hb]
  | fuel + 1, g :: gs, gs', hz, h => by
      simp only [Geom.nonzeroList, Bool.and_eq_true] at hz
      simp only [potComplementList, Except.bind_eq_ok_iff, Except.ok.injEq] at h
      obtain ⟨g1, hp, r1, hq, rfl⟩ := h
      obtain ⟨hp1, hz1, he1⟩ := potComplement_eval cells hc σ cv (fuel + 1) g g1 hz.1 hp
      obtain ⟨hp2, hz2, hall, hany⟩ := potComplementList_eval cells hc σ cv fuel gs r1 hz.2 hq
      refine ⟨?_, by simp [Geom.nonzeroList, hz1, hz2], ?_, ?_⟩
      · intro hn
        simp only [Geom.noCrefList, Bool.and_eq_true] at hn
        simp [Geom.pureList, hp1 hn.1, hp2 hn.2]
      · intro f2 b hb
        simp only [cellRegion.regionAll, Option.bind_eq_bind, Option.pure_def,
          Option.bind_eq_some_iff, Option.some.injEq] at hb
        obtain ⟨a, ha, c, hc', rfl⟩ := hb
        simp [Geom.evalAll, he1 f2 a ha, hall f2 c hc']
      · intro f2 b hb
        simp only [cellRegion.regionAny, Option.bind_eq_bind, Option.pure_def,
          Option.bind_eq_some_iff, Option.some.injEq] at hb
        obtain ⟨a, ha, c, hc', rfl⟩ := hb
        simp [Geom.evalAny, he1 f2 a ha, hany f2 c hc']
termination_by fuel _ => (fuel, 1)
decreasing_by all_goals simp_wf; omega
end

end T4V
