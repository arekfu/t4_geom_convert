import T4V.Model.Surface
import T4V.Model.Transform
import T4V.Spec.MCNP
import T4V.Proofs.V3
import Mathlib.Tactic.FieldSimp
import Mathlib.Tactic.LinearCombination
import Mathlib.Tactic.Positivity
/-!
# Elementary surfaces: family lemmas (helper file for `Props/C02`, `Props/C03`, `Props/C04`)

A signed collection is read as a list of oriented implicit functions (`FacetOK`).  The frames of `convert_plane`,
`convert_cylinder` and `convert_cone` are treated for an arbitrary axis; the cards are instances.

Every lemma is over an arbitrary linearly ordered field `α`; the transcendental functions enter only
through the hypotheses collected in `TranscOK` (true of ℝ: `T4V/Proofs/RealOK.lean`).
-/
-- the four namespace blocks of the file repeat one `variable` line; a helper that uses less of it (`isAxis_x`, `quad_f`:
-- field operations only) takes all four instances, which the linter would report
set_option linter.unusedSectionVars false
namespace T4V.Surf
variable {α : Type} [Field α] [LinearOrder α] [IsStrictOrderedRing α] [Transc α]

/-- the TRIPOLI-4 surface `t` has the zero set and the orientation of the implicit function `g`:
its own implicit function is a positive multiple of `g` at every point -/
def Same (t : TSurf α) (g : V3 α → α) : Prop := ∃ k, 0 < k ∧ ∀ p, t.f p = some (k * g p)

/-- a signed collection agrees with the MCNP card: wherever MCNP's sense is defined and the point is
off the surface, a negative reference selects the point iff MCNP's sense is negative -/
def Agrees (coll : List (TSurf α × Int)) (mn : String) (ps : List α) : Prop :=
  ∀ p sm, elemSense mn ps p = some sm → sm.2 ≠ 0 → collNegative coll p = some (!sm.1)

/-- same zero set as the MCNP card -/
def SameLocus (t : TSurf α) (mn : String) (ps : List α) : Prop :=
  ∀ p sm v, elemSense mn ps p = some sm → t.f p = some v → (v = 0 ↔ sm.2 = 0)

/-- what is shown for a card: it converts, a negative reference selects MCNP's negative side at every
point off the surface, and a single emitted surface has exactly the card's zero set -/
def Converted (e1 e2 : α) (mn : String) (ps : List α) : Prop :=
  ∃ coll, convertCard e1 e2 mn ps = some coll ∧ Agrees coll mn ps ∧ ∀ t, coll = [(t, 1)] → SameLocus t mn ps

/-- what the proofs need to know about the transcendental functions (true of ℝ, see `transcOK_real`) -/
structure TranscOK (α : Type) [Field α] [LinearOrder α] [Transc α] : Prop where
  sqrt_sq : ∀ x : α, 0 ≤ x → Transc.sqrt x * Transc.sqrt x = x
  sqrt_pos : ∀ x : α, 0 < x → 0 < Transc.sqrt x
  tan_atan : ∀ x : α, Transc.tan (Transc.atan x) = x
  pi_ne : (Transc.pi : α) ≠ 0
  cos_sin : ∀ x : α, Transc.cos x * Transc.cos x + Transc.sin x * Transc.sin x = 1

/-! ### signs, and `Same` under scaling -/

theorem absv_eq_zero (a : α) : absv a = 0 ↔ a = 0 := by
  unfold absv; split <;> simp

theorem fabs_eq_abs (t : α) : fabs t = |t| := by
  unfold fabs; split
  · rw [abs_of_neg ‹_›]
  · rw [abs_of_nonneg (not_lt.mp ‹_›)]

theorem sq_fabs (t : α) : sq (fabs t) = sq t := by
  rw [fabs_eq_abs]; exact abs_mul_abs_self t

theorem mul_neg_iff_of_pos_left {k x : α} (hk : 0 < k) : k * x < 0 ↔ x < 0 := by
  rw [← neg_pos, ← mul_neg, mul_pos_iff_of_pos_left hk, neg_pos]

theorem neg_iff_not_pos {x : α} (hx : x ≠ 0) : decide (x < 0) = !pos? x := by
  rcases lt_or_gt_of_ne hx with h | h <;> simp [pos?, h, not_lt.mpr h.le]

theorem Same.scale {t : TSurf α} {g g' : V3 α → α} (h : Same t g) (c : α) (hc : 0 < c) (e : ∀ p, g p = c * g' p) :
    Same t g' := by
  obtain ⟨k, hk, hf⟩ := h
  exact ⟨k * c, mul_pos hk hc, fun p => by rw [hf p, e p, mul_assoc]⟩

theorem Same.congr {t : TSurf α} {g g' : V3 α → α} (h : Same t g) (e : ∀ p, g p = g' p) : Same t g' :=
  h.scale 1 one_pos fun p => by rw [e, one_mul]

/-- for the axis-parallel branches of the converters: the general function is the special one times the (squared)
axis component -/
theorem Same.of_mul {t : TSurf α} {g : V3 α → α} (c : α) (hc : 0 < c) (h : V3 α → α) (ht : ∀ p, t.f p = some (h p))
    (e : ∀ p, g p = c * h p) : Same t g :=
  ⟨1 / c, one_div_pos.mpr hc, fun p => by rw [ht, e, one_div, inv_mul_cancel_left₀ hc.ne']⟩

end T4V.Surf

-- `FacetOK` and its first consequences stand here because the cone lemmas below are stated with them; the lemmas about
-- whole bodies are in `Proofs/Macro.lean`
namespace T4V.Macro
open T4V.Surf
variable {α : Type} [Field α] [LinearOrder α] [IsStrictOrderedRing α] [Transc α]

/-- the signed TRIPOLI-4 surface `(t, side)` is the MCNP facet whose outward implicit function is `g`:
same zero set, and `side·t` positive exactly where `g` is -/
def FacetOK (ts : TSurf α × Int) (g : V3 α → α) : Prop :=
  (ts.2 = 1 ∧ Same ts.1 g) ∨ (ts.2 = -1 ∧ Same ts.1 fun p => -g p)

/-- facet by facet, in MCNP's numbering -/
def BodyOK (coll : List (TSurf α × Int)) (gs : List (V3 α → α)) : Prop := List.Forall₂ FacetOK coll gs

/-- the two `if`s are the tests that `collNegative` and `collPositive` (`Model/Surface.lean`) make on the value `v` of a
signed surface; for a facet they are the sign tests of `g` -/
theorem FacetOK.sides {ts : TSurf α × Int} {g : V3 α → α} (h : FacetOK ts g) (p : V3 α) :
    ∃ v, ts.1.f p = some v ∧ ((if ts.2 < 0 then decide (0 < v) else decide (v < 0)) = decide (g p < 0)) ∧
      ((if ts.2 < 0 then decide (v < 0) else decide (0 < v)) = decide (0 < g p)) := by
  rcases h with ⟨hs, k, hk, hf⟩ | ⟨hs, k, hk, hf⟩
  · exact ⟨_, hf p, by simp [hs, mul_neg_iff_of_pos_left hk], by simp [hs, mul_pos_iff_of_pos_left hk]⟩
  -- side `-1`: `v = k * -g p`; `simp` moves the sign out: `0 < v` becomes `k * g p < 0`, `v < 0` becomes `0 < k * g p`
  · exact ⟨_, hf p, by simp [hs, mul_neg_iff_of_pos_left hk], by simp [hs, mul_pos_iff_of_pos_left hk]⟩

theorem FacetOK.flip {ts : TSurf α × Int} {g : V3 α → α} (h : FacetOK ts g) : FacetOK (ts.1, -ts.2) fun p => -g p := by
  rcases h with ⟨hs, h⟩ | ⟨hs, h⟩
  · exact Or.inr ⟨by simp [hs], h.congr fun p => (neg_neg _).symm⟩
  · exact Or.inl ⟨by simp [hs], h⟩

/-- `g = c·h` with `c ≠ 0`: the surface computing `h`, with the sign of `c` as its side, is the facet `g` -/
theorem FacetOK.of_mul {t : TSurf α} {c : α} (hc : c ≠ 0) {g h : V3 α → α} (ht : ∀ p, t.f p = some (h p))
    (hg : ∀ p, g p = c * h p) : FacetOK (t, if 0 < c then 1 else -1) g := by
  rcases lt_or_gt_of_ne hc with hneg | hpos
  · rw [if_neg (not_lt.mpr hneg.le)]
    exact Or.inr ⟨rfl, .of_mul (-c) (neg_pos.mpr hneg) h ht fun p => by rw [hg, neg_mul]⟩
  · rw [if_pos hpos]
    exact Or.inl ⟨rfl, .of_mul c hpos h ht hg⟩

theorem collNegative_cons {ts : TSurf α × Int} {g : V3 α → α} (h : FacetOK ts g) {rest : List (TSurf α × Int)}
    {p : V3 α} {b : Bool} (hr : collNegative rest p = some b) :
    collNegative (ts :: rest) p = some (b && decide (g p < 0)) := by
  obtain ⟨v, hv, hneg, -⟩ := FacetOK.sides h p
  unfold collNegative at hr ⊢
  simp only [List.foldr_cons, hr, hv, hneg]

theorem collPositive_cons {ts : TSurf α × Int} {g : V3 α → α} (h : FacetOK ts g) {rest : List (TSurf α × Int)}
    {p : V3 α} {b : Bool} (hr : collPositive rest p = some b) :
    collPositive (ts :: rest) p = some (b || decide (0 < g p)) := by
  obtain ⟨v, hv, -, hpos⟩ := FacetOK.sides h p
  unfold collPositive at hr ⊢
  simp only [List.foldr_cons, hr, hv, hpos]

end T4V.Macro

namespace T4V.Surf
open T4V.Macro
variable {α : Type} [Field α] [LinearOrder α] [IsStrictOrderedRing α] [Transc α]

/-! ### one surface for a card; planes and cylinders for any axis -/

theorem Same.collNegative {t : TSurf α} {g : V3 α → α} (h : Same t g) (p : V3 α) (hne : (smOf (g p)).2 ≠ 0) :
    collNegative [(t, 1)] p = some (!(smOf (g p)).1) := by
  rw [collNegative_cons (Or.inl ⟨rfl, h⟩) rfl, Bool.true_and]
  exact congrArg some (neg_iff_not_pos ((absv_eq_zero _).not.mp hne))

theorem Converted.of_same {e1 e2 : α} {mn : String} {ps : List α} {t : TSurf α} (g : V3 α → α)
    (hconv : convertCard e1 e2 mn ps = some [(t, 1)]) (hsame : Same t g)
    (hspec : ∀ p, elemSense mn ps p = some (smOf (g p))) : Converted e1 e2 mn ps := by
  refine ⟨[(t, 1)], hconv, fun p sm hsm hne => ?_, fun t' ht' p sm v hsm hv => ?_⟩
  · rw [hspec p] at hsm; cases hsm
    exact hsame.collNegative p hne
  · obtain ⟨k, hk, hf⟩ := hsame
    cases ht'
    rw [hspec p] at hsm; cases hsm
    rw [hf p] at hv; cases hv
    simp only [smOf, absv_eq_zero, mul_eq_zero, hk.ne', false_or]

theorem Converted.of_cad {e1 e2 : α} {mn : String} {ps : List α} {s : MSurf α} {t : TSurf α} (g : V3 α → α)
    (hc : cadOf e1 e2 mn ps = some s) (hs : convertSurf s = some [(t, 1)]) (hsame : Same t g)
    (hspec : ∀ p, elemSense mn ps p = some (smOf (g p))) : Converted e1 e2 mn ps :=
  Converted.of_same g (by simp [convertCard, hc, hs]) hsame hspec

/-- `convert_plane`, all four branches -/
theorem convertPlane_same (pt u : V3 α) : Same (convertPlane pt u) fun p => u.dot (p.sub pt) := by
  unfold convertPlane
  simp only [beq_iff_eq, Bool.and_eq_true, decide_eq_true_eq]
  -- the three axis-parallel branches are alike (two components of `u` vanish), here and in the three converters below
  split_ifs with h h h
  iterate 3
    · obtain ⟨⟨h1, h2⟩, h3⟩ := h
      exact .of_mul _ h3 _ (fun p => rfl) fun p => by
        simp only [V3.dot, V3.sub, h1, h2, zero_mul, zero_add, add_zero, neg_neg, mul_div_cancel_left₀ _ h3.ne']
  · exact ⟨1, one_pos, fun p => by simp only [TSurf.f, TSurf.fLocal, V3.dot, V3.sub]; congr 1; ring⟩

/-- `TSurf.fLocal` turns the emitted degrees back into radians before taking the tangent -/
theorem theta_back (ok : TranscOK α) (x : α) :
    Transc.tan (deg180 * Transc.atan x / Transc.pi * Transc.pi / deg180) = x := by
  have h1 := ok.pi_ne
  have h2 : (deg180 : α) ≠ 0 := by unfold deg180; positivity
  have : deg180 * Transc.atan x / Transc.pi * Transc.pi / deg180 = Transc.atan x := by
    field_simp
  rw [this, ok.tan_atan]

/-- `convert_cylinder`, all four branches; the axis vector need not be normalised -/
theorem cyl_general_same (pt u : V3 α) (r : α) (hu : 0 < u.dot u) :
    Same (convertCylinder pt u r) fun p => perp2 (p.sub pt) u - sq r * u.norm2 := by
  unfold convertCylinder
  simp only [beq_iff_eq, Bool.and_eq_true]
  split_ifs with h h h
  iterate 3
    · obtain ⟨h1, h2⟩ := h
      simp only [V3.dot, h1, h2, mul_zero, zero_add, add_zero] at hu
      exact .of_mul _ hu _ (fun p => rfl) fun p => by simp only [perp2, V3.norm2, V3.dot, V3.sub, sq, h1, h2]; ring
  · exact ⟨1, one_pos, fun p => by simp only [TSurf.f, TSurf.fLocal, perp2, one_mul]⟩

/-! ### frames: plane, sphere, cylinder -/

/-- the frames that convert to one surface: planes, spheres, cylinders with a non-zero axis -/
def Framed (s : MSurf α) : Prop :=
  s.kind = .p ∨ (s.kind = .s ∧ ∃ r, s.compl = [r]) ∨ (s.kind = .c ∧ (∃ r, s.compl = [r]) ∧ 0 < s.ax.dot s.ax)

/-- in the form of `Tr.frame_transport`'s hypothesis (which also admits cones) -/
theorem Framed.kind {s : MSurf α} (h : Framed s) : s.kind = .p ∨ s.kind = .s ∨ s.kind = .c ∨ s.kind = .k := by
  rcases h with h | h | h
  · exact .inl h
  · exact .inr (.inl h.1)
  · exact .inr (.inr (.inl h.1))

theorem frame_same (s : MSurf α) (h : Framed s) :
    ∃ t g, convertSurf s = some [(t, 1)] ∧ (∀ p, frameF s 0 p = some (g p)) ∧ Same t g := by
  rcases h with hk | ⟨hk, r, hc⟩ | ⟨hk, ⟨r, hc⟩, hu⟩
  · exact ⟨_, _, by simp [convertSurf, hk], fun p => by simp [frameF, hk], convertPlane_same s.pt s.ax⟩
  · refine ⟨{ kind := .sphere, ps := [s.pt.x, s.pt.y, s.pt.z, r] }, fun p => (p.sub s.pt).norm2 - sq r,
      by simp [convertSurf, hk, hc],
      fun p => by simp [frameF, hk, hc], 1, one_pos, fun p => ?_⟩
    simp [TSurf.f, TSurf.fLocal, V3.norm2, V3.dot, V3.sub, sq]
  · exact ⟨_, _, by simp [convertSurf, hk, hc], fun p => by simp [frameF, hk, hc, perp2],
      cyl_general_same s.pt s.ax r hu⟩

/-- the card is given by a frame whose function is `g` times a positive constant -/
def FrameCard (mn : String) (ps : List α) (g : V3 α → α) : Prop :=
  ∃ (s : MSurf α) (c : α), cadOf (0:α) 0 mn ps = some s ∧ Framed s ∧ 0 < c ∧ ∀ q, frameF s 0 q = some (c * g q)

/-- `Tr.TrConverted.of_frame` (`Proofs/Transform.lean`) makes the same steps under a motion -/
theorem FrameCard.same {mn : String} {ps : List α} {g : V3 α → α} (h : FrameCard mn ps g) :
    ∃ t, convertCard (0:α) 0 mn ps = some [(t, 1)] ∧ Same t g := by
  obtain ⟨s, c, hcad, hF, hc, hframe⟩ := h
  obtain ⟨t, g', ht, hg', hsame⟩ := frame_same s hF
  exact ⟨t, by simp [convertCard, hcad, ht],
    hsame.scale c hc fun p => Option.some.inj ((hg' p).symm.trans (hframe p))⟩

theorem FrameCard.converted {mn : String} {ps : List α} {g : V3 α → α} (h : FrameCard mn ps g)
    (hspec : ∀ q, elemSense mn ps q = some (smOf (g q))) : Converted (0:α) 0 mn ps := by
  obtain ⟨t, ht, hsame⟩ := h.same
  exact Converted.of_same g ht hsame hspec

theorem FrameCard.of_frame {mn : String} {ps : List α} (s : MSurf α) (hcad : cadOf (0:α) 0 mn ps = some s)
    (hF : Framed s) (g : V3 α → α) (hframe : ∀ q, frameF s 0 q = some (g q)) : FrameCard mn ps g :=
  ⟨s, 1, hcad, hF, one_pos, fun q => by rw [hframe, one_mul]⟩

theorem FrameCard.sphere {mn : String} {ps : List α} (a b c r : α)
    (hcad : cadOf (0:α) 0 mn ps = some (mkSphere a b c r)) :
    FrameCard mn ps fun q => sq (q.x - a) + sq (q.y - b) + sq (q.z - c) - sq r :=
  .of_frame _ hcad (.inr (.inl ⟨rfl, r, rfl⟩)) _ fun _ => rfl

/-- `e` is a coordinate axis: unit vector, with the coordinate along it and the squared distance from it as MCNP's
formulas write them -/
structure IsAxis (e : V3 α) (coord rr2 : V3 α → α) : Prop where
  unit : e.dot e = 1
  dot : ∀ d, d.dot e = coord d
  perp : ∀ d, perp2 d e = rr2 d

theorem isAxis_x : IsAxis (⟨1, 0, 0⟩ : V3 α) (·.x) fun d => sq d.y + sq d.z :=
  ⟨by simp [V3.dot], fun d => by simp [V3.dot], fun d => by simp only [perp2, V3.norm2, V3.dot, sq]; ring⟩
theorem isAxis_y : IsAxis (⟨0, 1, 0⟩ : V3 α) (·.y) fun d => sq d.x + sq d.z :=
  ⟨by simp [V3.dot], fun d => by simp [V3.dot], fun d => by simp only [perp2, V3.norm2, V3.dot, sq]; ring⟩
theorem isAxis_z : IsAxis (⟨0, 0, 1⟩ : V3 α) (·.z) fun d => sq d.x + sq d.y :=
  ⟨by simp [V3.dot], fun d => by simp [V3.dot], fun d => by simp only [perp2, V3.norm2, V3.dot, sq]; ring⟩

theorem FrameCard.plane_axis {mn : String} {ps : List α} {e : V3 α} {coord rr2 : V3 α → α} (hA : IsAxis e coord rr2)
    (pt : V3 α) (hcad : cadOf (0:α) 0 mn ps = some (mkPlane pt e)) : FrameCard mn ps fun q => coord (q.sub pt) :=
  .of_frame _ hcad (.inl rfl) _ fun _ => congrArg some ((V3.dot_comm e _).trans (hA.dot _))

theorem FrameCard.cyl_axis {mn : String} {ps : List α} {e : V3 α} {coord rr2 : V3 α → α} (hA : IsAxis e coord rr2)
    (pt : V3 α) (r : α) (hcad : cadOf (0:α) 0 mn ps = some (mkCyl pt.x pt.y pt.z r e.x e.y e.z)) :
    FrameCard mn ps fun q => rr2 (q.sub pt) - sq r :=
  .of_frame _ hcad (.inr (.inr ⟨rfl, ⟨r, rfl⟩, hA.unit ▸ one_pos⟩)) _ fun q => by
    show some (perp2 (q.sub pt) e - sq r * e.dot e) = _
    rw [hA.perp, hA.unit, mul_one]

/-- `p` with four entries (`cadPlane4`): normalisation by `√(a² + b² + c²)` and the choice of the foot point keep the
plane and its orientation -/
theorem FrameCard.plane4 (ok : TranscOK α) (a b c d : α) (h : 0 < a * a + b * b + c * c) :
    FrameCard "p" [a, b, c, d] fun q => a * q.x + b * q.y + c * q.z - d := by
  have hn := ok.sqrt_pos _ h
  have hnn := ok.sqrt_sq _ h.le
  refine ⟨cadPlane4 a b c d, 1 / Transc.sqrt (a * a + b * b + c * c), ?_, .inl rfl, one_div_pos.mpr hn, fun q => ?_⟩
  -- the arm of `cadOfRaw` for `"p"` with four entries, stated so that the match on the mnemonic is not unfolded
  · show planeCard a b c d = _
    simp [planeCard, hn.ne']
  simp only [frameF, cadPlane4, mkPlane, V3.dot, V3.sub]
  generalize Transc.sqrt (a * a + b * b + c * c) = n at hn hnn
  have hn0 : n ≠ 0 := hn.ne'
  congr 1
  field_simp
  linear_combination d * hnn

theorem plane4_same (ok : TranscOK α) (a b c d : α) (h : 0 < a * a + b * b + c * c) :
    ∃ t, convertCard (0:α) 0 "p" [a, b, c, d] = some [(t, 1)] ∧ Same t fun p => a * p.x + b * p.y + c * p.z - d :=
  (FrameCard.plane4 ok a b c d h).same

/-! ### `convert_cone`: the cone and the apex plane it emits, for any axis -/

/-- the cone emitted by `convert_cone` for apex `p`, axis `u` and angle `θ` in degrees -/
def coneOf (p u : V3 α) (θ : α) : TSurf α :=
  if u.x == 0 && u.y == 0 then { kind := .conez, ps := [p.x, p.y, p.z, θ] }
  else if u.y == 0 && u.z == 0 then { kind := .conex, ps := [p.x, p.y, p.z, θ] }
  else if u.z == 0 && u.x == 0 then { kind := .coney, ps := [p.x, p.y, p.z, θ] }
  else { kind := .cone, ps := [p.x, p.y, p.z, θ, u.x, u.y, u.z] }

/-- the apex plane of a one-sheet cone together with the sign of the axis, as `convert_cone` chooses them -/
def apexPlane (p u : V3 α) : TSurf α × Int :=
  let pos := -(u.x * p.x + u.y * p.y + u.z * p.z)
  if u.x == 0 && u.y == 0 then ({ kind := .planez, ps := [-pos / u.z] }, if (0:α) < u.z then 1 else -1)
  else if u.y == 0 && u.z == 0 then ({ kind := .planex, ps := [-pos / u.x] }, if (0:α) < u.x then 1 else -1)
  else if u.z == 0 && u.x == 0 then ({ kind := .planey, ps := [-pos / u.y] }, if (0:α) < u.y then 1 else -1)
  else ({ kind := .plane, ps := [u.x, u.y, u.z, pos] }, 1)

theorem coneOf_defined (pt u : V3 α) (θ : α) (p : V3 α) : ∃ v, (coneOf pt u θ).f p = some v := by
  unfold coneOf
  split_ifs <;> exact ⟨_, rfl⟩

theorem convertCone_sheet (s : MSurf α) (a at_ n : α) (hc : s.compl = [a, at_]) (hn : s.nappe = some n) (h0 : n ≠ 0) :
    convertCone s = some [(coneOf s.pt s.ax (deg180 * at_ / Transc.pi), 1),
      ((apexPlane s.pt s.ax).1, -(if n < 0 then -1 else 1) * (apexPlane s.pt s.ax).2)] := by
  have hb : (n == 0) = false := by simpa using h0
  unfold convertCone coneOf apexPlane
  rw [hc, hn]
  simp only [hb, Bool.false_eq_true, if_false]

theorem convertCone_two (s : MSurf α) (a at_ : α) (hc : s.compl = [a, at_]) (hn : s.nappe = none) :
    convertCone s = some [(coneOf s.pt s.ax (deg180 * at_ / Transc.pi), 1)] := by
  unfold convertCone coneOf
  rw [hc, hn]

/-- with offset 0 the frame point is the apex -/
theorem mkCone_eq (x y z tana a b c : α) (n : Option α) :
    mkCone x y z tana a b c n =
      { kind := .k, pt := ⟨x, y, z⟩, ax := ⟨a, b, c⟩, compl := [0, Transc.atan tana], nappe := n } := by
  simp [mkCone]

theorem apexPlane_facet (pt u : V3 α) (hu : 0 < u.dot u) : FacetOK (apexPlane pt u) fun p => u.dot (p.sub pt) := by
  unfold apexPlane
  simp only [beq_iff_eq, Bool.and_eq_true]
  -- `split_ifs` would also split the sign tests inside the pairs
  iterate 3
    split
    next h =>
      obtain ⟨h1, h2⟩ := h
      simp only [V3.dot, h1, h2, mul_zero, zero_add, add_zero] at hu
      have hne := mul_self_pos.mp hu
      exact FacetOK.of_mul hne (fun p => rfl) fun p => by
        simp only [V3.dot, V3.sub, h1, h2, zero_mul, zero_add, add_zero, neg_neg, mul_div_cancel_left₀ _ hne]
  exact Or.inl ⟨rfl, 1, one_pos, fun p => by simp only [TSurf.f, TSurf.fLocal, V3.dot, V3.sub]; congr 1; ring⟩

/-- `convert_cone`, all four branches -/
theorem coneOf_same (ok : TranscOK α) (pt u : V3 α) (tana : α) (hu : 0 < u.dot u) :
    Same (coneOf pt u (deg180 * Transc.atan tana / Transc.pi)) fun p =>
      perp2 (p.sub pt) u - sq tana * sq ((p.sub pt).dot u) := by
  have hth := theta_back ok tana
  -- `TSurf.fLocal` (`Spec/T4.lean`) writes the 180 out where the model says `deg180`: both are brought to the numeral
  unfold deg180 at hth
  unfold coneOf
  simp only [beq_iff_eq, Bool.and_eq_true]
  split_ifs with h h h
  iterate 3
    · obtain ⟨h1, h2⟩ := h
      simp only [V3.dot, h1, h2, mul_zero, zero_add, add_zero] at hu
      exact .of_mul _ hu _ (fun p => by simp only [TSurf.f, TSurf.fLocal, deg180, hth]; rfl) fun p => by
        simp only [perp2, V3.norm2, V3.dot, V3.sub, sq, h1, h2]; ring
  · exact ⟨1, one_pos, fun p => by simp only [TSurf.f, TSurf.fLocal, deg180, hth, one_mul]⟩

/-- one-sheet cone: `convert_cone` emits the cone and the apex plane, whose side keeps the sheet
`n·(u·(p − apex)) > 0` -/
theorem cone_sheet_facet (s : MSurf α) (a at_ n : α) (hk : s.kind = .k) (hc : s.compl = [a, at_])
    (hn : s.nappe = some n) (hs : n = 1 ∨ n = -1) (hu : 0 < s.ax.dot s.ax) :
    ∃ pl, convertSurf s = some [(coneOf s.pt s.ax (deg180 * at_ / Transc.pi), 1), pl] ∧
      FacetOK pl fun p => -(n * s.ax.dot (p.sub s.pt)) := by
  have h0 : n ≠ 0 := by rcases hs with rfl | rfl <;> simp
  refine ⟨_, by rw [convertSurf, hk]; exact convertCone_sheet s a at_ n hc hn h0, ?_⟩
  have hf := apexPlane_facet s.pt s.ax hu
  rcases hs with rfl | rfl
  · rw [if_neg (not_lt.mpr zero_le_one)]
    simpa using hf.flip
  · rw [if_pos (by simp)]
    simpa using hf

/-- `collNegative_cons` twice, for a first surface whose value `v` is only known to be defined: the form
`C04.flipped_cone` needs -/
theorem collNegative_pair {t : TSurf α} {ts : TSurf α × Int} {g : V3 α → α} {v : α} (p : V3 α)
    (hv : t.f p = some v) (h : FacetOK ts g) :
    collNegative [(t, 1), ts] p = some (decide (v < 0) && decide (g p < 0)) := by
  obtain ⟨w, hw, hneg, -⟩ := FacetOK.sides h p
  have h1 : ¬ ((1 : Int) < 0) := by decide
  simp only [collNegative, List.foldr_cons, List.foldr_nil, hv, hw, hneg, h1, if_false, Bool.true_and, Bool.and_comm]

theorem sheet_card {e1 e2 : α} {mn : String} {ps : List α} {s : MSurf α} {a at_ n : α}
    (hcad : cadOf e1 e2 mn ps = some s) (hk : s.kind = .k) (hc : s.compl = [a, at_]) (hn : s.nappe = some n)
    (hs : n = 1 ∨ n = -1) (hu : 0 < s.ax.dot s.ax) (g : V3 α → α)
    (hg : Same (coneOf s.pt s.ax (deg180 * at_ / Transc.pi)) g)
    (hspec : ∀ p, elemSense mn ps p = some (oneSheet (g p) (s.ax.dot (p.sub s.pt)) n)) : Converted e1 e2 mn ps := by
  obtain ⟨pl, hconv, hpl⟩ := cone_sheet_facet s a at_ n hk hc hn hs hu
  refine ⟨[(coneOf s.pt s.ax (deg180 * at_ / Transc.pi), 1), pl], by simp [convertCard, hcad, hconv],
    fun p sm hsm _ => ?_, fun t ht => by simp at ht⟩
  rw [hspec p] at hsm; cases hsm
  rw [collNegative_cons (Or.inl ⟨rfl, hg⟩) (collNegative_cons hpl rfl)]
  simp [oneSheet, pos?, Bool.and_comm]

/-- `t2` = the squared tangent as MCNP's formula has it (`t²` of the card, or `sq t` for the axisymmetric cone) -/
theorem cone_two_axis (ok : TranscOK α) {mn : String} {ps : List α} {e : V3 α} {coord rr2 : V3 α → α}
    (hA : IsAxis e coord rr2) (pt : V3 α) (tana t2 : α) (ht : sq tana = t2)
    (hcad : cadOf (0:α) 0 mn ps = some (mkCone pt.x pt.y pt.z tana e.x e.y e.z none))
    (hspec : ∀ q, elemSense mn ps q = some (smOf (rr2 (q.sub pt) - t2 * sq (coord (q.sub pt))))) :
    Converted (0:α) 0 mn ps := by
  rw [mkCone_eq] at hcad
  exact Converted.of_cad _ hcad (by rw [convertSurf]; exact convertCone_two _ _ _ rfl rfl)
    ((coneOf_same ok pt e tana (hA.unit ▸ one_pos)).congr fun q => by rw [hA.perp, hA.dot, ht]) hspec

theorem cone_one_axis (ok : TranscOK α) {mn : String} {ps : List α} {e : V3 α} {coord rr2 : V3 α → α}
    (hA : IsAxis e coord rr2) (pt : V3 α) (tana t2 n : α) (ht : sq tana = t2) (hn : n = 1 ∨ n = -1)
    (hcad : cadOf (0:α) 0 mn ps = some (mkCone pt.x pt.y pt.z tana e.x e.y e.z (some n)))
    (hspec : ∀ q, elemSense mn ps q =
      some (oneSheet (rr2 (q.sub pt) - t2 * sq (coord (q.sub pt))) (coord (q.sub pt)) n)) :
    Converted (0:α) 0 mn ps := by
  rw [mkCone_eq] at hcad
  exact sheet_card hcad rfl rfl rfl hn (hA.unit ▸ one_pos) _
    ((coneOf_same ok pt e tana (hA.unit ▸ one_pos)).congr fun q => by rw [hA.perp, hA.dot, ht])
    fun q => by rw [hspec, ← hA.dot, V3.dot_comm]

/-! ### point-defined axisymmetric surfaces, the axis a variable -/

/-- the one-sheet cone through `(a1, r1)`, `(a2, r2)` as `cadAxisym` builds it: `e` = unit vector of the axis,
`axisPt v` = the point of the axis at `v` -/
def axisymCone (e : V3 α) (axisPt : α → V3 α) (a1 r1 a2 r2 : α) : MSurf α :=
  let tana := (r1 - r2) / (a1 - a2)
  let x0 := a1 - r1 / tana
  mkCone (axisPt x0).x (axisPt x0).y (axisPt x0).z (fabs tana) e.x e.y e.z (some (if x0 < a1 then 1 else -1))

theorem axisym_card (ok : TranscOK α) {mn : String} {e : V3 α} {coord rr2 : V3 α → α} (hA : IsAxis e coord rr2)
    (axisPt : α → V3 α) (h0 : axisPt 0 = ⟨0, 0, 0⟩) (hat : ∀ v q, coord (q.sub (axisPt v)) = coord q - v)
    (hrr : ∀ v q, rr2 (q.sub (axisPt v)) = rr2 q) (a1 r1 a2 r2 : α)
    (hcad : cadOf (0:α) 0 mn [a1, r1, a2, r2] =
      if a1 == a2 then some (mkPlane (axisPt a1) e) else if r1 == r2 then some (mkCyl 0 0 0 r1 e.x e.y e.z)
      else some (axisymCone e axisPt a1 r1 a2 r2))
    (hspec : ∀ q, elemSense mn [a1, r1, a2, r2] q = axisym [a1, r1, a2, r2] (coord q) (rr2 q)) :
    Converted (0:α) 0 mn [a1, r1, a2, r2] := by
  by_cases h1 : a1 = a2
  · rw [if_pos (by simpa using h1)] at hcad
    exact (FrameCard.plane_axis hA (axisPt a1) hcad).converted fun q => by rw [hspec, hat]; simp [axisym, h1]
  rw [if_neg (by simpa using h1)] at hcad
  by_cases h2 : r1 = r2
  · rw [if_pos (by simpa using h2)] at hcad
    exact (FrameCard.cyl_axis hA ⟨0, 0, 0⟩ r1 hcad).converted fun q => by
      rw [hspec, ← h0, hrr]; simp [axisym, h1, h2]
  rw [if_neg (by simpa using h2)] at hcad
  refine cone_one_axis ok hA (axisPt (a1 - r1 / ((r1 - r2) / (a1 - a2)))) (fabs ((r1 - r2) / (a1 - a2))) _ _
    (sq_fabs _) (by split <;> simp) hcad fun q => ?_
  rw [hspec, hat, hrr]
  simp only [axisym, beq_iff_eq, h1, h2, if_false]

/-! ### the plane through three points: `planeParamsFromPoints` -/

/-- MCNP's orientation rule for a plane through three points, as in `elemSense` (`Spec/MCNP.lean`) -/
def flip3 (n : V3 α) (d : α) : Bool :=
  if d < 0 then true else if (0:α) < d then false
  else if n.z < 0 then true else if (0:α) < n.z then false
  else if n.y < 0 then true else if (0:α) < n.y then false
  else decide (n.x < 0)

/-- the cascade on the normalised numbers decides as MCNP's rule on the raw ones -/
theorem orient_spec (c : α) (hc : 0 < c) (n : V3 α) (d : α) (hn : ¬ (n.x = 0 ∧ n.y = 0 ∧ n.z = 0)) (P F : List α) :
    orient 0 (c * d) (c * n.x) (c * n.y) (c * n.z) P F = some (if flip3 n d then F else P) := by
  unfold orient flip3
  simp only [neg_zero, mul_neg_iff_of_pos_left hc, mul_pos_iff_of_pos_left hc]
  rcases lt_trichotomy d 0 with hd | hd | hd
  · simp [hd]
  · rcases lt_trichotomy n.z 0 with hz | hz | hz
    · simp [hd, hz]
    · rcases lt_trichotomy n.y 0 with hy | hy | hy
      · simp [hd, hz, hy]
      · rcases lt_trichotomy n.x 0 with hx | hx | hx
        · simp [hd, hz, hy, hx]
        · exact absurd ⟨hx, hy, hz⟩ hn
        · simp [hd, hz, hy, hx, not_lt.mpr hx.le]
      · simp [hd, hz, hy, not_lt.mpr hy.le]
    · simp [hd, hz, not_lt.mpr hz.le]
  · simp [hd, not_lt.mpr hd.le]

/-- the four numbers of the plane with normal `n` through `p1`, normalised, flipped or not -/
def unitPlane (n p1 : V3 α) (flip : Bool) : List α :=
  let s := Transc.sqrt n.norm2
  if flip then [-(1 / s * n.x), -(1 / s * n.y), -(1 / s * n.z), -(1 / s * n.dot p1)]
  else [1 / s * n.x, 1 / s * n.y, 1 / s * n.z, 1 / s * n.dot p1]

theorem planeFromPoints_eq (ok : TranscOK α) (p1 p2 p3 : V3 α)
    (h : 0 < ((p1.sub p2).cross (p1.sub p3)).norm2) :
    planeFromPoints (0:α) 0 p1 p2 p3 =
      some (unitPlane ((p1.sub p2).cross (p1.sub p3)) p1
        (flip3 ((p1.sub p2).cross (p1.sub p3)) (((p1.sub p2).cross (p1.sub p3)).dot p1))) := by
  generalize hn : (p1.sub p2).cross (p1.sub p3) = n at h
  have hc : 0 < 1 / Transc.sqrt n.norm2 := one_div_pos.mpr (ok.sqrt_pos _ h)
  have hnz : ¬ (n.x = 0 ∧ n.y = 0 ∧ n.z = 0) := by
    rintro ⟨a, b, c⟩; simp [V3.norm2, V3.dot, a, b, c] at h
  have hl : ¬ (n.norm2 < 0 ∨ n.norm2 = 0) := fun h' => h'.elim (lt_asymm h) h.ne'
  unfold planeFromPoints unitPlane
  simp only [hn, Bool.or_eq_true, decide_eq_true_eq, beq_iff_eq, hl, if_false, V3.dot_smul_left]
  exact (orient_spec (1 / Transc.sqrt n.norm2) hc n (n.dot p1) hnz _ _).trans (by split <;> rfl)

theorem convertCard_three_points (x1 y1 z1 x2 y2 z2 x3 y3 z3 : α) (l : List α)
    (h : planeFromPoints (0:α) 0 ⟨x1, y1, z1⟩ ⟨x2, y2, z2⟩ ⟨x3, y3, z3⟩ = some l) (hl : l.length = 4) :
    convertCard (0:α) 0 "p" [x1, y1, z1, x2, y2, z2, x3, y3, z3] = convertCard (0:α) 0 "p" l := by
  match l, hl with
  | [a, b, c, d], _ =>
    -- the arm of `cadOfRaw` for `"p"` with nine entries, likewise
    show (match planeFromPoints (0:α) 0 ⟨x1, y1, z1⟩ ⟨x2, y2, z2⟩ ⟨x3, y3, z3⟩ with
      | some [a, b, c, d] => planeCard a b c d
      | _ => none).bind convertSurf = _
    rw [h]; rfl

theorem unitPlane_same (ok : TranscOK α) (n p1 : V3 α) (h : 0 < n.norm2) (flip : Bool) :
    ∃ t, convertCard (0:α) 0 "p" (unitPlane n p1 flip) = some [(t, 1)] ∧
      Same t fun p => if flip then -(n.dot p - n.dot p1) else n.dot p - n.dot p1 := by
  have hs := ok.sqrt_pos _ h
  have hss : Transc.sqrt n.norm2 * Transc.sqrt n.norm2 = n.x * n.x + n.y * n.y + n.z * n.z := ok.sqrt_sq _ h.le
  unfold unitPlane
  generalize Transc.sqrt n.norm2 = s at hs hss
  have hc : 0 < 1 / s := one_div_pos.mpr hs
  have hs0 := hs.ne'
  have hsq : (1 / s * n.x) * (1 / s * n.x) + (1 / s * n.y) * (1 / s * n.y) + (1 / s * n.z) * (1 / s * n.z) = 1 := by
    field_simp
    linear_combination -hss
  cases flip
  · obtain ⟨t, ht, hsame⟩ := plane4_same ok (1 / s * n.x) (1 / s * n.y) (1 / s * n.z) (1 / s * n.dot p1)
      (by rw [hsq]; exact one_pos)
    exact ⟨t, ht, hsame.scale (1 / s) hc fun p => by simp only [V3.dot, Bool.false_eq_true, if_false]; ring⟩
  · obtain ⟨t, ht, hsame⟩ := plane4_same ok (-(1 / s * n.x)) (-(1 / s * n.y)) (-(1 / s * n.z)) (-(1 / s * n.dot p1))
      (by rw [neg_mul_neg, neg_mul_neg, neg_mul_neg, hsq]; exact one_pos)
    exact ⟨t, ht, hsame.scale (1 / s) hc fun p => by simp only [V3.dot, if_true]; ring⟩

/-! ### SQ and GQ -/

/-- the emitted GQ at the SQ's reference point: the number whose sign `convert_special_quadric` tests -/
theorem sq_centre_value (a b c d e f g x y z : α) :
    a * (x * x) + b * (y * y) + c * (z * z) + 0 * x * y + 0 * y * z + 0 * z * x
      + (two * d - two * a * x) * x + (two * e - two * b * y) * y + (two * f - two * c * z) * z
      + (a * (x * x) + b * (y * y) + c * (z * z) - two * (d * x + e * y + f * z) + g) = g := by
  unfold two; ring

/-- `convert_special_quadric`, constant term not positive (the positive case: `C02.sq_positive_centre_is_reversed`) -/
theorem sq_same (a b c d e f g x y z : α) (hg : ¬ 0 < g) :
    ∃ t, convertSQ [a, b, c, d, e, f, g, x, y, z] = some t ∧
      Same t fun p => a * sq (p.x - x) + b * sq (p.y - y) + c * sq (p.z - z)
        + two * d * (p.x - x) + two * e * (p.y - y) + two * f * (p.z - z) + g := by
  refine ⟨_, by simp only [convertSQ, evalQuadric, sq_centre_value, if_neg hg]; rfl, 1, one_pos, fun p => ?_⟩
  simp only [TSurf.f, TSurf.fLocal, sq, two, one_mul]
  congr 1; ring

theorem quad_f (q : List α) (hq : q.length = 10) (p : V3 α) :
    TSurf.f { kind := .quad, ps := q } p = evalQuadric q p := by
  match q, hq with
  | [a, b, c, d, e, f, g, h, j, k], _ => simp [TSurf.f, TSurf.fLocal, evalQuadric, sq]

end T4V.Surf

namespace T4V.Tr
open T4V.Surf
variable {α : Type} [Field α] [LinearOrder α] [IsStrictOrderedRing α] [Transc α]

/-- the cards given by a frame (plane, sphere, cylinder): the table behind `C02.elementary_card` for these cards and
behind `C04.transformed_card`, the cards for which the transformed conversion is proved through the frame (GQ and SQ
go through `Tr.TrConverted.of_quad`) -/
inductive TrAdmissible : String → List α → Prop
  | px (d : α) : TrAdmissible "px" [d]
  | py (d : α) : TrAdmissible "py" [d]
  | pz (d : α) : TrAdmissible "pz" [d]
  | p4 (a b c d : α) (h : 0 < a * a + b * b + c * c) : TrAdmissible "p" [a, b, c, d]
  | so (r : α) : TrAdmissible "so" [r]
  | s (a b c r : α) : TrAdmissible "s" [a, b, c, r]
  | sx (a r : α) : TrAdmissible "sx" [a, r]
  | sy (b r : α) : TrAdmissible "sy" [b, r]
  | sz (c r : α) : TrAdmissible "sz" [c, r]
  | c_x (b c r : α) : TrAdmissible "c/x" [b, c, r]
  | c_y (a c r : α) : TrAdmissible "c/y" [a, c, r]
  | c_z (a b r : α) : TrAdmissible "c/z" [a, b, r]
  | cx (r : α) : TrAdmissible "cx" [r]
  | cy (r : α) : TrAdmissible "cy" [r]
  | cz (r : α) : TrAdmissible "cz" [r]

theorem frame_cards (ok : TranscOK α) {mn : String} {ps : List α} (h : TrAdmissible mn ps) :
    ∃ g, FrameCard mn ps g ∧ ∀ q, elemSense mn ps q = some (smOf (g q)) := by
  cases h with
  | px d => exact ⟨_, .plane_axis isAxis_x ⟨d, 0, 0⟩ rfl, fun _ => rfl⟩
  | py d => exact ⟨_, .plane_axis isAxis_y ⟨0, d, 0⟩ rfl, fun _ => rfl⟩
  | pz d => exact ⟨_, .plane_axis isAxis_z ⟨0, 0, d⟩ rfl, fun _ => rfl⟩
  | p4 a b c d h => exact ⟨_, .plane4 ok a b c d h, fun _ => rfl⟩
  | so r => exact ⟨_, .sphere 0 0 0 r rfl, fun q => by simp only [sub_zero]; rfl⟩
  | s a b c r => exact ⟨_, .sphere a b c r rfl, fun _ => rfl⟩
  | sx a r => exact ⟨_, .sphere a 0 0 r rfl, fun q => by simp only [sub_zero]; rfl⟩
  | sy b r => exact ⟨_, .sphere 0 b 0 r rfl, fun q => by simp only [sub_zero]; rfl⟩
  | sz c r => exact ⟨_, .sphere 0 0 c r rfl, fun q => by simp only [sub_zero]; rfl⟩
  | c_x b c r => exact ⟨_, .cyl_axis isAxis_x ⟨0, b, c⟩ r rfl, fun _ => rfl⟩
  | c_y a c r => exact ⟨_, .cyl_axis isAxis_y ⟨a, 0, c⟩ r rfl, fun _ => rfl⟩
  | c_z a b r => exact ⟨_, .cyl_axis isAxis_z ⟨a, b, 0⟩ r rfl, fun _ => rfl⟩
  | cx r => exact ⟨_, .cyl_axis isAxis_x ⟨0, 0, 0⟩ r rfl, fun q => by simp only [V3.sub, sub_zero]; rfl⟩
  | cy r => exact ⟨_, .cyl_axis isAxis_y ⟨0, 0, 0⟩ r rfl, fun q => by simp only [V3.sub, sub_zero]; rfl⟩
  | cz r => exact ⟨_, .cyl_axis isAxis_z ⟨0, 0, 0⟩ r rfl, fun q => by simp only [V3.sub, sub_zero]; rfl⟩

end T4V.Tr
