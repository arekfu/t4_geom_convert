import T4V.Num
import Mathlib.Tactic.Ring
/-!
# The algebra of `V3`: scalar and vector product

`V3.dot`, `V3.cross`, `V3.add`, `V3.sub`, `V3.smul`, `V3.neg` are plain functions (the model runs on `Float`); here are
the identities through which the proofs use them over a field, so that no proof has to open a vector into its three
coordinates.
-/
namespace T4V.V3

theorem ext' {α : Type} {a b : V3 α} (hx : a.x = b.x) (hy : a.y = b.y) (hz : a.z = b.z) : a = b := by
  cases a; cases b; simp_all

variable {α : Type} [Field α]

theorem norm2_eq (a : V3 α) : a.norm2 = a.dot a := rfl

theorem dot_comm (a b : V3 α) : a.dot b = b.dot a := by simp only [dot]; ring

theorem dot_add_left (a b c : V3 α) : (a.add b).dot c = a.dot c + b.dot c := by simp only [dot, add]; ring
theorem dot_add_right (a b c : V3 α) : a.dot (b.add c) = a.dot b + a.dot c := by simp only [dot, add]; ring
theorem dot_sub_left (a b c : V3 α) : (a.sub b).dot c = a.dot c - b.dot c := by simp only [dot, sub]; ring
theorem dot_sub_right (a b c : V3 α) : a.dot (b.sub c) = a.dot b - a.dot c := by simp only [dot, sub]; ring
theorem dot_smul_left (k : α) (a b : V3 α) : (smul k a).dot b = k * a.dot b := by simp only [dot, smul]; ring
theorem dot_smul_right (k : α) (a b : V3 α) : a.dot (smul k b) = k * a.dot b := by simp only [dot, smul]; ring
theorem dot_neg_left (a b : V3 α) : a.neg.dot b = -a.dot b := by simp only [dot, neg]; ring
theorem dot_neg_right (a b : V3 α) : a.dot b.neg = -a.dot b := by simp only [dot, neg]; ring

theorem cross_dot_left (a b : V3 α) : (a.cross b).dot a = 0 := by simp only [dot, cross]; ring
theorem cross_dot_right (a b : V3 α) : (a.cross b).dot b = 0 := by simp only [dot, cross]; ring

theorem triple_cycle (a b c : V3 α) : a.dot (b.cross c) = b.dot (c.cross a) := by simp only [dot, cross]; ring
theorem cross_dot_eq (a b c : V3 α) : (a.cross b).dot c = a.dot (b.cross c) := by simp only [dot, cross]; ring

theorem cross_smul_left (k : α) (a b : V3 α) : (smul k a).cross b = smul k (a.cross b) := by
  apply ext' <;> simp only [cross, smul] <;> ring
theorem cross_smul_right (k : α) (a b : V3 α) : a.cross (smul k b) = smul k (a.cross b) := by
  apply ext' <;> simp only [cross, smul] <;> ring
theorem smul_smul (k l : α) (a : V3 α) : smul k (smul l a) = smul (k * l) a := by
  apply ext' <;> simp only [smul] <;> ring
theorem add_smul_sub_add_smul (v a : V3 α) (k l : α) :
    (v.add (smul k a)).sub (v.add (smul l a)) = smul (k - l) a := by
  apply ext' <;> simp only [add, sub, smul] <;> ring
theorem cross_sub_sub (p1 p2 p3 : V3 α) : (p2.sub p1).cross (p3.sub p1) = (p1.sub p2).cross (p1.sub p3) := by
  apply ext' <;> simp only [cross, sub] <;> ring
theorem sub_add (p v w : V3 α) : p.sub (v.add w) = (p.sub v).sub w := by
  apply ext' <;> simp only [sub, add] <;> ring
theorem cross_self_smul (k : α) (a : V3 α) : a.cross (smul k a) = zero := by
  apply ext' <;> simp only [cross, smul, zero] <;> ring

/-- Lagrange's identity -/
theorem cross_dot_cross (a b : V3 α) : (a.cross b).dot (a.cross b) = a.dot a * b.dot b - a.dot b * a.dot b := by
  simp only [dot, cross]; ring

end T4V.V3
