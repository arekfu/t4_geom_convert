import T4V.Model.Post
import T4V.Proofs.Den
/-!
# The passes of the post-processing, in the form the proofs about them start from

De-duplication is one invariant over the surfaces consumed so far; `remove_empty_volumes` is known by a case rule for
a step and invariant rules for a round and for the loop.  Also here: renumbering, and that no volume is left with one
surface on both sides.
-/
namespace T4V

/-! ## `remove_duplicate_surfaces` -/

/-- invariant rule for a fold whose invariant speaks of the part of the list already consumed -/
theorem foldl_prefix_inv {α β} (f : β → α → β) {I : List α → β → Prop}
    (hstep : ∀ proc acc a, I proc acc → I (proc ++ [a]) (f acc a)) :
    ∀ (l proc : List α) (acc : β), I proc acc → I (proc ++ l) (l.foldl f acc)
  | [], proc, acc, h => by simpa using h
  | a :: l, proc, acc, h => by
      simpa using foldl_prefix_inv f hstep l (proc ++ [a]) (f acc a) (hstep proc acc a h)

/-- the state of `remove_duplicate_surfaces` after the surfaces `proc`: `acc.1` maps the definitions seen to the
surface kept for each, `acc.2.1` are the kept surfaces, `acc.2.2` the renumbering -/
structure DedupInv (proc : List (Nat × String)) (acc : List (String × Nat) × List Nat × List (Nat × Nat)) : Prop where
  seen : ∀ k b, (k, b) ∈ acc.1 → (b, k) ∈ proc ∧ b ∈ acc.2.1
  ren : ∀ a b, (a, b) ∈ acc.2.2 → ∃ k, (a, k) ∈ proc ∧ (b, k) ∈ proc ∧ b ∈ acc.2.1
  cover : ∀ a k, (a, k) ∈ proc → ∃ b, (a, b) ∈ acc.2.2
  keptSeen : ∀ b ∈ acc.2.1, ∃ k, (k, b) ∈ acc.1
  keysNodup : (acc.1.map (·.1)).Nodup
  low : (proc.Pairwise fun x y => x.1 ≤ y.1) → ∀ a b, (a, b) ∈ acc.2.2 → b ≤ a

theorem dedupStep_inv (proc : List (Nat × String)) (acc) (p : Nat × String) (h : DedupInv proc acc) :
    DedupInv (proc ++ [p]) (dedupStep acc p) := by
  obtain ⟨hs, hr, hc, hk, hn, hl⟩ := h
  have hsub : ∀ x ∈ proc, x ∈ proc ++ [p] := fun x => List.mem_append_left _
  unfold dedupStep
  cases hf : acc.1.find? (·.1 == p.2) with
  | some q =>
    -- the definition is known: `p.1` is renumbered to the surface `b'` kept for it
    obtain ⟨k', b'⟩ := q
    have hm := List.mem_of_find?_eq_some hf
    obtain rfl : k' = p.2 := by simpa using List.find?_some hf
    obtain ⟨hb'p, hb'k⟩ := hs _ _ hm
    refine ⟨fun k b hkb => ⟨hsub _ (hs k b hkb).1, (hs k b hkb).2⟩, fun a b hab => ?_, fun a k hak => ?_, hk, hn,
      fun hsorted a b hab => ?_⟩
    · rcases List.mem_append.mp hab with hab | hab
      · obtain ⟨k, h1, h2, h3⟩ := hr a b hab
        exact ⟨k, hsub _ h1, hsub _ h2, h3⟩
      · obtain ⟨rfl, rfl⟩ := Prod.mk.inj (List.mem_singleton.mp hab)
        exact ⟨p.2, by simp, hsub _ hb'p, hb'k⟩
    · rcases List.mem_append.mp hak with hak | hak
      · exact (hc a k hak).imp fun b hb => List.mem_append_left _ hb
      · obtain ⟨rfl, rfl⟩ : a = p.1 ∧ k = p.2 := by simpa [Prod.ext_iff] using hak
        exact ⟨b', by simp⟩
    · obtain ⟨hp, -, hle⟩ := List.pairwise_append.mp hsorted
      rcases List.mem_append.mp hab with hab | hab
      · exact hl hp a b hab
      · obtain ⟨rfl, rfl⟩ := Prod.mk.inj (List.mem_singleton.mp hab)
        exact hle _ hb'p p (List.mem_singleton.mpr rfl)
  | none =>
    -- a new definition: `p.1` is kept and stands for it
    refine ⟨fun k b hkb => ?_, fun a b hab => ?_, fun a k hak => ?_, fun b hb => ?_, ?_, fun hsorted a b hab => ?_⟩
    · rcases List.mem_append.mp hkb with hkb | hkb
      · exact ⟨hsub _ (hs k b hkb).1, List.mem_append_left _ (hs k b hkb).2⟩
      · obtain ⟨rfl, rfl⟩ := Prod.mk.inj (List.mem_singleton.mp hkb)
        exact ⟨by simp, by simp⟩
    · rcases List.mem_append.mp hab with hab | hab
      · obtain ⟨k, h1, h2, h3⟩ := hr a b hab
        exact ⟨k, hsub _ h1, hsub _ h2, List.mem_append_left _ h3⟩
      · obtain ⟨rfl, rfl⟩ := Prod.mk.inj (List.mem_singleton.mp hab)
        exact ⟨p.2, by simp, by simp, by simp⟩
    · rcases List.mem_append.mp hak with hak | hak
      · exact (hc a k hak).imp fun b hb => List.mem_append_left _ hb
      · obtain ⟨rfl, rfl⟩ : a = p.1 ∧ k = p.2 := by simpa [Prod.ext_iff] using hak
        exact ⟨p.1, by simp⟩
    · rcases List.mem_append.mp hb with hb | hb
      · exact (hk b hb).imp fun k hkb => List.mem_append_left _ hkb
      · obtain rfl : b = p.1 := by simpa using hb
        exact ⟨p.2, by simp⟩
    · rw [List.map_append, List.nodup_append]
      refine ⟨hn, by simp, fun x hx y hy hxy => ?_⟩
      obtain ⟨e, he, rfl⟩ := List.mem_map.mp hx
      obtain rfl : y = p.2 := by simpa using hy
      exact absurd (by simp [hxy]) (List.find?_eq_none.mp hf e he)
    · obtain ⟨hp, -, -⟩ := List.pairwise_append.mp hsorted
      rcases List.mem_append.mp hab with hab | hab
      · exact hl hp a b hab
      · obtain ⟨rfl, rfl⟩ := Prod.mk.inj (List.mem_singleton.mp hab)
        exact Nat.le_refl _

theorem removeDuplicates_inv (surfs : List (Nat × String)) :
    DedupInv (surfs.mergeSort fun a b => a.1 ≤ b.1)
      ((surfs.mergeSort fun a b => a.1 ≤ b.1).foldl dedupStep ([], [], [])) := by
  have := foldl_prefix_inv dedupStep dedupStep_inv (surfs.mergeSort fun a b => a.1 ≤ b.1) [] ([], [], [])
    ⟨fun _ _ h => by simp at h, fun _ _ h => by simp at h, fun _ _ h => by simp at h, fun _ h => by simp at h,
      by simp, fun _ _ _ h => by simp at h⟩
  simpa using this

/-- **De-duplication merges two surface numbers only if they describe the same surface**: whenever
`remove_duplicate_surfaces` renumbers `a` to `b`, both carry the same definition, and `b` is kept. -/
theorem removeDuplicates_sound (surfs : List (Nat × String)) (a b : Nat)
    (h : (a, b) ∈ (removeDuplicates surfs).2) :
    ∃ k, (a, k) ∈ surfs ∧ (b, k) ∈ surfs ∧ b ∈ (removeDuplicates surfs).1 := by
  obtain ⟨k, h1, h2, h3⟩ := (removeDuplicates_inv surfs).ren a b h
  exact ⟨k, List.mem_mergeSort.mp h1, List.mem_mergeSort.mp h2, h3⟩

/-! ## `renumber_surfaces` -/

theorem mem_insertSorted (a b : Nat) : ∀ l : List Nat, b ∈ insertSorted a l ↔ b = a ∨ b ∈ l
  | [] => by simp [insertSorted]
  | c :: r => by
      unfold insertSorted
      split
      · simp
      · split
        · next h => simp [show a = c by simpa using h]
        · simp [mem_insertSorted a b r, or_left_comm]

theorem mem_toSet (b : Nat) (l : List Nat) : b ∈ toSet l ↔ b ∈ l := by
  unfold toSet
  have key : ∀ (l acc : List Nat), b ∈ l.foldl (fun acc a => insertSorted a acc) acc ↔ b ∈ acc ∨ b ∈ l := by
    intro l
    induction l with
    | nil => intro acc; simp
    | cons x xs ih => intro acc; simp [ih, mem_insertSorted, or_assoc, or_left_comm]
  simpa using key l []

theorem all_toSet_map (p : Nat → Bool) (f : Nat → Nat) (l : List Nat) :
    (toSet (l.map f)).all p = l.all (fun s => p (f s)) := by
  rw [Bool.eq_iff_iff]
  simp only [List.all_eq_true, mem_toSet, List.mem_map]
  constructor
  · intro h s hs; exact h (f s) ⟨s, hs, rfl⟩
  · rintro h _ ⟨s, hs, rfl⟩; exact h s hs

/-- the EQUA part of a renumbered volume, under a sense assignment that gives merged surfaces the
same sense -/
theorem equa_renumber (σ : TSense) (ren : List (Nat × Nat)) (hσ : ∀ s, σ (renumOf ren s) = σ s) (v : Vol) :
    equa σ (renumVol ren v) = equa σ v := by
  unfold equa renumVol
  simp only [all_toSet_map, hσ]

theorem den_renumber (σ : TSense) (ren : List (Nat × Nat)) (hσ : ∀ s, σ (renumOf ren s) = σ s)
    (vols : List (Nat × Vol)) : ∀ f k, den (renumberVols ren vols) σ f k = den vols σ f k := by
  intro f
  induction f with
  | zero => intro k; rfl
  | succ f ih =>
    intro k
    rw [den_succ, den_succ, funext ih, renumberVols, dictGet?_map]
    cases dictGet? vols k with
    | none => rfl
    | some v => exact evalVol_congr _ rfl (equa_renumber σ ren hσ v)

/-! ## `remove_empty_volumes` -/

def delKey (vs : List (Nat × Vol)) (k : Nat) : List (Nat × Vol) := vs.filter (·.1 != k)

theorem dictGet?_delKey_self (vs : List (Nat × Vol)) (k : Nat) : dictGet? (delKey vs k) k = none := by
  unfold dictGet? delKey
  rw [List.find?_filter]
  simp

theorem dictGet?_delKey_ne {vs : List (Nat × Vol)} {k j : Nat} (hne : j ≠ k) :
    dictGet? (delKey vs k) j = dictGet? vs j := by
  unfold dictGet? delKey
  rw [List.find?_filter]
  congr 2
  funext p
  by_cases h : p.1 = j <;> simp [h, hne]

theorem hasKey_delKey {vs : List (Nat × Vol)} {k j : Nat} : hasKey (delKey vs k) j ↔ j ≠ k ∧ hasKey vs j := by
  rw [hasKey_of_dictGet?, hasKey_of_dictGet?]
  by_cases hj : j = k
  · subst hj; rw [dictGet?_delKey_self]; simp
  · rw [dictGet?_delKey_ne hj]; simp [hj]

def isUnion (v : Vol) : Bool := match v.ops with | some (.union, _) => true | _ => false

theorem isUnion_iff (v : Vol) : isUnion v = true ↔ ∃ ids, v.ops = some (.union, ids) := by
  unfold isUnion
  cases ho : v.ops with
  | none => simp
  | some q => obtain ⟨op, ids⟩ := q; cases op <;> simp

/-- what a step of a round does with the entry `ov` found under `k`: a union is neutralised, anything else is deleted.
The entry is a parameter so that two steps can be compared without looking it up again. -/
def stepWith (u : Nat × Nat) (ov : Option Vol) (acc : List (Nat × Vol) × List Nat) (k : Nat) :
    List (Nat × Vol) × List Nat :=
  match ov with
  | none => acc
  | some v =>
    if isUnion v = true then (updAt acc.1 k { v with pluses := [u.1], minuses := [u.2] }, acc.2)
    else (delKey acc.1 k, acc.2 ++ [k])

def roundStep (u : Nat × Nat) (acc : List (Nat × Vol) × List Nat) (k : Nat) : List (Nat × Vol) × List Nat :=
  stepWith u (dictGet? acc.1 k) acc k

theorem removeEmptyRound_eq (u : Nat × Nat) (vols : List (Nat × Vol)) (q : List Nat) :
    removeEmptyRound u vols q = q.foldl (roundStep u) (vols, []) := by
  unfold removeEmptyRound
  dsimp only
  congr 1
  funext acc k
  obtain ⟨vs, removed⟩ := acc
  unfold roundStep stepWith isUnion updAt delKey
  cases dictGet? vs k with
  | none => rfl
  | some v =>
    cases ho : v.ops with
    | none => simp [ho]
    | some x => obtain ⟨op, ids⟩ := x; cases op <;> simp [ho]

theorem roundStep_cases (u : Nat × Nat) (acc : List (Nat × Vol) × List Nat) (k : Nat)
    {P : List (Nat × Vol) × List Nat → Prop} (hnone : dictGet? acc.1 k = none → P acc)
    (hunion : ∀ v, dictGet? acc.1 k = some v → isUnion v = true →
      P (updAt acc.1 k { v with pluses := [u.1], minuses := [u.2] }, acc.2))
    (hdel : ∀ v, dictGet? acc.1 k = some v → isUnion v = false → P (delKey acc.1 k, acc.2 ++ [k])) :
    P (roundStep u acc k) := by
  unfold roundStep stepWith
  split
  next hg => exact hnone hg
  next v hg =>
    split
    next hu => exact hunion v hg hu
    next hu => exact hdel v hg (by simpa using hu)

/-- invariant rule for a round; the invariant sees the state only, not which keys have had their turn -/
theorem round_rule (u : Nat × Nat) {P : List (Nat × Vol) × List Nat → Prop} (vs : List (Nat × Vol)) (q : List Nat)
    (h0 : P (vs, [])) (hstep : ∀ acc k, k ∈ q → P acc → P (roundStep u acc k)) : P (removeEmptyRound u vs q) := by
  rw [removeEmptyRound_eq]
  exact List.foldlRecOn q _ h0 fun acc ih k hk => hstep acc k hk ih

/-- The loop of `remove_empty_volumes` as a `while` rule.  The invariant may mention the fuel, so that it can carry
the variant: on exit either the queue is empty or the invariant holds with no fuel left. -/
theorem loop_rule (u : Nat × Nat) {I : Nat → List (Nat × Vol) → List Nat → List Nat → Prop}
    (hround : ∀ fuel vs q removed, I (fuel + 1) vs q removed → q ≠ [] →
      I fuel (afterRound (removeEmptyRound u vs q).1 (removed ++ (removeEmptyRound u vs q).2)).1
        (afterRound (removeEmptyRound u vs q).1 (removed ++ (removeEmptyRound u vs q).2)).2
        (removed ++ (removeEmptyRound u vs q).2)) :
    ∀ fuel vs q removed, I fuel vs q removed →
      ∃ fuel' q' removed', I fuel' (removeEmpty.loop u fuel vs q removed) q' removed' ∧ (fuel' = 0 ∨ q' = [])
  | 0, vs, q, removed, h => ⟨0, q, removed, h, Or.inl rfl⟩
  | fuel + 1, vs, q, removed, h => by
      unfold removeEmpty.loop
      by_cases hq : q = []
      · subst hq
        exact ⟨fuel + 1, [], removed, h, Or.inr rfl⟩
      · rw [if_neg (mt List.isEmpty_iff.mp hq)]
        exact loop_rule u hround fuel _ _ _ (hround fuel vs q removed h hq)

theorem loop_preserves (u : Nat × Nat) {P : List (Nat × Vol) → Prop}
    (hstep : ∀ acc k, P acc.1 → P (roundStep u acc k).1) (hafter : ∀ vs removed, P vs → P (afterRound vs removed).1)
    (fuel : Nat) (vs : List (Nat × Vol)) (q removed : List Nat) (h : P vs) :
    P (removeEmpty.loop u fuel vs q removed) := by
  obtain ⟨_, _, _, hP, _⟩ := loop_rule u (I := fun _ vs _ _ => P vs)
    (fun _ vs q _ hP _ => hafter _ _ (round_rule u (P := fun acc => P acc.1) vs q hP fun acc k _ => hstep acc k))
    fuel vs q removed h
  exact hP

/-- what `afterRound` does to one volume -/
def dropRemoved (removed : List Nat) (v : Vol) : Vol :=
  match v.ops with
  | some (.union, ids) =>
      let ids' := ids.filter (!removed.contains ·)
      { v with ops := if ids'.isEmpty then none else some (.union, ids') }
  | _ => v

theorem afterRound_eq (vs : List (Nat × Vol)) (removed : List Nat) :
    afterRound vs removed =
      (vs.map fun p => (p.1, dropRemoved removed p.2),
       vs.filterMap fun p => if !isUnion p.2 && (idsOf p.2).any (removed.contains ·) then some p.1 else none) := by
  unfold afterRound
  dsimp only
  congr 1
  · congr 1
    funext ⟨k, v⟩
    unfold dropRemoved
    cases v.ops with
    | none => simp
    | some x => obtain ⟨op, ids⟩ := x; cases op <;> simp
  · congr 1
    funext ⟨k, v⟩
    cases ho : v.ops with
    | none => simp [isUnion, idsOf, ho]
    | some x => obtain ⟨op, ids⟩ := x; cases op <;> simp [isUnion, idsOf, ho]

theorem afterRound_fst (vs : List (Nat × Vol)) (removed : List Nat) :
    (afterRound vs removed).1 = vs.map fun p => (p.1, dropRemoved removed p.2) := by
  rw [afterRound_eq]

theorem hasKey_afterRound {vs : List (Nat × Vol)} {removed : List Nat} {j : Nat} :
    hasKey (afterRound vs removed).1 j ↔ hasKey vs j := by
  rw [afterRound_fst]; exact hasKey_map_snd _

theorem mem_afterRound_snd {vs : List (Nat × Vol)} {removed : List Nat} {k : Nat} :
    k ∈ (afterRound vs removed).2 ↔ ∃ v, (k, v) ∈ vs ∧ isUnion v = false ∧ ∃ r ∈ idsOf v, r ∈ removed := by
  rw [afterRound_eq]
  simp only [List.mem_filterMap, Option.ite_none_right_eq_some, Option.some.injEq, Bool.and_eq_true,
    Bool.not_eq_true', List.any_eq_true, List.contains_iff_mem]
  constructor
  · exact fun ⟨p, hm, hc, e⟩ => ⟨p.2, e ▸ hm, hc.1, hc.2⟩
  · exact fun ⟨v, hm, hu, hex⟩ => ⟨(k, v), hm, ⟨hu, hex⟩, rfl⟩

theorem dropRemoved_of_not_union {removed : List Nat} {w : Vol} (h : isUnion w = false) :
    dropRemoved removed w = w := by
  unfold dropRemoved
  split
  · rename_i ho; simp [isUnion, ho] at h
  · rfl

theorem fictive_dropRemoved (removed : List Nat) (w : Vol) : (dropRemoved removed w).fictive = w.fictive := by
  unfold dropRemoved
  split <;> rfl

theorem equa_dropRemoved (σ : TSense) (removed : List Nat) (w : Vol) : equa σ (dropRemoved removed w) = equa σ w := by
  unfold dropRemoved
  split <;> rfl

theorem ops_dropRemoved {removed : List Nat} {w : Vol} {ids : List Nat} (ho : w.ops = some (.union, ids)) :
    (dropRemoved removed w).ops =
      if (ids.filter (!removed.contains ·)).isEmpty then none else some (.union, ids.filter (!removed.contains ·)) := by
  simp only [dropRemoved, ho]

theorem mem_idsOf_dropRemoved {removed : List Nat} {w : Vol} {r : Nat} :
    r ∈ idsOf (dropRemoved removed w) ↔ r ∈ idsOf w ∧ (isUnion w = true → r ∉ removed) := by
  cases hu : isUnion w with
  | false => rw [dropRemoved_of_not_union hu]; simp
  | true =>
    obtain ⟨ids, ho⟩ := (isUnion_iff w).mp hu
    unfold idsOf
    rw [ops_dropRemoved ho, ho]
    by_cases he : (ids.filter (!removed.contains ·)).isEmpty = true
    · rw [if_pos he, ← List.isEmpty_iff.mp he]; simp
    · rw [if_neg he]; simp

theorem isUnion_of_dropRemoved {removed : List Nat} {w : Vol} (h : isUnion (dropRemoved removed w) = true) :
    isUnion w = true := by
  cases hu : isUnion w with
  | true => rfl
  | false => rw [dropRemoved_of_not_union hu, hu] at h; exact h

theorem empty_dropRemoved (removed : List Nat) (w : Vol) : (dropRemoved removed w).empty = w.empty := by
  unfold dropRemoved
  split <;> rfl

/-! ## `remove_empty_volumes` leaves no volume with one surface on both sides -/

def NoEmpty (vs : List (Nat × Vol)) : Prop := ∀ p ∈ vs, p.2.empty = false

theorem neutral_not_empty (u : Nat × Nat) (hu : u.1 ≠ u.2) (v : Vol) :
    ({ v with pluses := [u.1], minuses := [u.2] } : Vol).empty = false := by
  simp [Vol.empty, hu]

theorem round_empty_survivors (u : Nat × Nat) (hu : u.1 ≠ u.2) (q : List Nat) (acc : List (Nat × Vol) × List Nat) :
    ∀ p ∈ (q.foldl (roundStep u) acc).1, p.2.empty = true → p ∈ acc.1 ∧ p.1 ∉ q := by
  -- a step for `k` leaves no empty volume under `k` and makes no new one
  have hstep : ∀ (b : List (Nat × Vol) × List Nat) (k : Nat), ∀ p ∈ (roundStep u b k).1, p.2.empty = true →
      p ∈ b.1 ∧ p.1 ≠ k := by
    intro b k
    apply roundStep_cases u b k (P := fun a => ∀ p ∈ a.1, p.2.empty = true → p ∈ b.1 ∧ p.1 ≠ k)
    · exact fun hg p hp _ => ⟨hp, fun hk => dictGet?_none_iff.mp hg ⟨p, hp, hk⟩⟩
    · intro v _ _ p hp he
      obtain ⟨q, hq, rfl⟩ := List.mem_map.mp hp
      by_cases hk : q.1 = k
      · rw [if_pos (by simpa using hk), neutral_not_empty u hu v] at he
        cases he
      · rw [if_neg (by simpa using hk)] at he ⊢
        exact ⟨hq, hk⟩
    · intro v _ _ p hp _
      simpa using List.mem_filter.mp hp
  -- `p.1 ∉ q` needs the keys already processed, which `round_rule` does not show
  have := foldl_prefix_inv (roundStep u)
    (I := fun proc b => ∀ p ∈ b.1, p.2.empty = true → p ∈ acc.1 ∧ p.1 ∉ proc)
    (fun proc b k ih p hp he => by
      obtain ⟨h1, h2⟩ := hstep b k p hp he
      exact ⟨(ih p h1 he).1, by simp [(ih p h1 he).2, h2]⟩)
    q [] acc (fun p hp _ => ⟨hp, by simp⟩)
  simpa using this

theorem afterRound_noEmpty (vs : List (Nat × Vol)) (removed : List Nat) (h : NoEmpty vs) :
    NoEmpty (afterRound vs removed).1 := by
  intro p hp
  rw [afterRound_fst] at hp
  obtain ⟨q, hq, rfl⟩ := List.mem_map.mp hp
  exact (empty_dropRemoved removed q.2).trans (h q hq)

theorem removeEmpty_noEmpty (u : Nat × Nat) (hu : u.1 ≠ u.2) (vols : List (Nat × Vol)) :
    NoEmpty (removeEmpty u vols) := by
  -- every empty volume is queued; after one round there is none, and the fuel allows one round
  obtain ⟨fuel', q', _, ⟨hq, hne⟩, hex⟩ := loop_rule u
    (I := fun fuel vs q _ => (∀ p ∈ vs, p.2.empty = true → p.1 ∈ q) ∧ (NoEmpty vs ∨ 0 < fuel))
    (fun fuel vs q removed hI _ => by
      have hne : NoEmpty (afterRound (removeEmptyRound u vs q).1 (removed ++ (removeEmptyRound u vs q).2)).1 := by
        apply afterRound_noEmpty
        intro p hp
        rw [removeEmptyRound_eq] at hp
        cases hem : p.2.empty with
        | false => rfl
        | true =>
          have := round_empty_survivors u hu q (vs, []) p hp hem
          exact absurd (hI.1 p this.1 hem) this.2
      exact ⟨fun p hp hem => absurd hem (by simp [hne p hp]), Or.inl hne⟩)
    (vols.length + 2) vols ((vols.filter (·.2.empty)).map (·.1)) []
    ⟨fun p hp he => List.mem_map.mpr ⟨p, by simp [hp, he], rfl⟩, Or.inr (Nat.succ_pos _)⟩
  rcases hne with hne | hpos
  · exact hne
  · intro p hp
    rcases hex with rfl | rfl
    · exact absurd hpos (Nat.lt_irrefl 0)
    · cases he : p.2.empty with
      | false => rfl
      | true => exact absurd (hq p hp he) (by simp)

/-! ## `postProcess`: with and without de-duplication -/

theorem postProcess_cases (dedup : Bool) (surfs : List (Nat × String)) (u : Nat × Nat) (vols : List (Nat × Vol))
    {P : List (Nat × Vol) → Prop} (hplain : P (removeUnused (removeEmpty u vols)))
    (hren : ∀ ren, ren = (removeDuplicates surfs).2 →
      P (removeUnused (removeEmpty (renumOf ren u.1, renumOf ren u.2) (renumberVols ren vols)))) :
    P (postProcess dedup surfs u vols).2 := by
  cases dedup with
  | false => exact hplain
  | true => exact hren _ rfl

end T4V
