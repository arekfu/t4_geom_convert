import T4V.Text.OptTokens
import T4V.Proofs.CharClass
/-!
# The option tokeniser of `parse_one_cell_worker`: letter case, `str.split()` on joined words, `apply_but` on the text
(lemmas for properties C14 and C15)
-/
namespace T4V.CC

theorem dropSp_map_lower : ∀ (s : List Char) (b : Bool),
    dropSpAfterColon b (s.map lower) = (dropSpAfterColon b s).map lower
  | [], _ => rfl
  | c :: r, b => by
    simp only [List.map_cons, dropSpAfterColon, lower_beq _ ' ' (by decide), lower_beq _ ':' (by decide)]
    split
    · exact dropSp_map_lower r true
    · simp only [List.map_cons]; rw [dropSp_map_lower r (c == ':')]

theorem colonSquash_map_lower (s : List Char) : colonSquash (s.map lower) = (colonSquash s).map lower := by
  unfold colonSquash
  rw [dropSp_map_lower, ← List.map_reverse, dropSp_map_lower, List.map_reverse]

/-- words joined by single blanks -/
def joinSp : List (List Char) → List Char
  | [] => []
  | [w] => w
  | w :: r => w ++ ' ' :: joinSp r

theorem splitStep_foldr_word (w : List Char) (hw : ∀ c ∈ w, cws c = false) (st : List Char × List (List Char)) :
    w.foldr splitStep st = (w ++ st.1, st.2) := by
  induction w with
  | nil => rfl
  | cons c r ih =>
    have hc := hw c List.mem_cons_self
    rw [List.foldr_cons, ih (fun x hx => hw x (List.mem_cons_of_mem _ hx))]
    simp [splitStep, hc]

theorem splitStep_ws {c : Char} (h : cws c = true) (st : List Char × List (List Char)) :
    splitStep c st = ([], finalize st) := by
  obtain ⟨cur, done⟩ := st
  cases cur <;> simp [splitStep, finalize, h]

theorem finalize_append (cur : List Char) (done acc : List (List Char)) :
    finalize (cur, done ++ acc) = finalize (cur, done) ++ acc := by
  cases cur <;> simp [finalize]

/-- the words already split off ride along untouched -/
theorem splitStep_foldr_acc (x : List Char) (acc : List (List Char)) :
    x.foldr splitStep ([], acc) = ((x.foldr splitStep ([], [])).1, (x.foldr splitStep ([], [])).2 ++ acc) := by
  induction x with
  | nil => rfl
  | cons c r ih =>
    rw [List.foldr_cons, List.foldr_cons, ih]
    by_cases hc : cws c = true
    · rw [splitStep_ws hc, splitStep_ws hc, finalize_append]
    · simp [splitStep, hc]

theorem splitWs_append_blank (x y : List Char) : splitWs (x ++ ' ' :: y) = splitWs x ++ splitWs y := by
  show finalize ((x ++ ' ' :: y).foldr splitStep ([], [])) = _
  rw [List.foldr_append, List.foldr_cons, splitStep_ws (by decide), splitStep_foldr_acc, finalize_append]
  rfl

theorem splitWs_word (w : List Char) (hne : w ≠ []) (hw : ∀ c ∈ w, cws c = false) : splitWs w = [w] := by
  simp [splitWs, finalize, splitStep_foldr_word w hw, hne]

theorem splitWs_join : ∀ (words : List (List Char)), (∀ x ∈ words, x ≠ [] ∧ ∀ c ∈ x, cws c = false) →
    splitWs (joinSp words) = words
  | [], _ => rfl
  | [w], h => splitWs_word w (h w (by simp)).1 (h w (by simp)).2
  | w :: w2 :: r, h => by
    rw [show joinSp (w :: w2 :: r) = w ++ ' ' :: joinSp (w2 :: r) from rfl, splitWs_append_blank,
      splitWs_word w (h w (by simp)).1 (h w (by simp)).2,
      splitWs_join (w2 :: r) fun x hx => h x (List.mem_cons_of_mem _ hx)]
    rfl

/-- after `c` (neither colon nor blank) the scanner is in its start state again, so the blank is kept -/
theorem dropSp_blank_after (a : List Char) (c : Char) (b : List Char) (b0 : Bool) (hc : c ≠ ':' ∧ c ≠ ' ') :
    dropSpAfterColon b0 (a ++ c :: ' ' :: b) = dropSpAfterColon b0 (a ++ [c]) ++ ' ' :: dropSpAfterColon false b := by
  induction a generalizing b0 with
  | nil =>
    have h1 : (c == ' ') = false := by simp [hc.2]
    have h2 : (c == ':') = false := by simp [hc.1]
    simp [h1, h2, dropSpAfterColon]
  | cons x xs ih =>
    rw [List.cons_append, List.cons_append, dropSpAfterColon, dropSpAfterColon]
    split
    · exact ih true
    · rw [ih]; rfl

theorem colonSquash_append (a b : List Char) (ha : a ≠ []) (hb : b ≠ [])
    (hlast : ∀ c, a.getLast? = some c → c ≠ ':' ∧ c ≠ ' ')
    (hfirst : ∀ c, b.head? = some c → c ≠ ':' ∧ c ≠ ' ') :
    colonSquash (a ++ ' ' :: b) = colonSquash a ++ ' ' :: colonSquash b := by
  obtain ⟨d, r, rfl⟩ := List.exists_cons_of_ne_nil hb
  have hc := hlast _ (List.getLast?_eq_some_getLast ha)
  -- forwards the blank follows the last character of `a`, backwards the first of `b`
  have e : dropSpAfterColon false (d :: r) = d :: dropSpAfterColon (d == ':') r := by simp [dropSpAfterColon]
  rw [← List.dropLast_concat_getLast ha]
  unfold colonSquash
  rw [List.append_assoc, List.singleton_append, dropSp_blank_after _ _ _ false hc, e]
  -- the reversed text is `… d`, blank, `…`: the same lemma once more
  rw [List.reverse_append, List.reverse_cons, List.reverse_cons, List.append_assoc, List.append_assoc,
    List.singleton_append, List.singleton_append, dropSp_blank_after _ d _ false (hfirst d rfl)]
  simp

theorem optTokens_append (a b : List Char) (ha : a ≠ []) (hb : b ≠ [])
    (hlast : ∀ c, a.getLast? = some c → c ≠ ':' ∧ c ≠ ' ')
    (hfirst : ∀ c, b.head? = some c → c ≠ ':' ∧ c ≠ ' ') :
    optTokens (a ++ ' ' :: b) = optTokens a ++ optTokens b := by
  unfold optTokens
  rw [colonSquash_append a b ha hb hlast hfirst, List.map_append, List.map_cons]
  have : punctToBlank (lower ' ') = ' ' := by rw [lower_of_lt ' ' (by decide)]; decide
  rw [this]
  exact splitWs_append_blank _ _

end T4V.CC
