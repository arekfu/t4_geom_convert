import T4V.Proofs.Den
import T4V.Proofs.Tree
/-!
# pot_flag and pot_expand_surfs preserve the Boolean function
-/
namespace T4V

def litT (σ : TSense) (s : Int) : Bool := if s > 0 then σ s.natAbs else !σ s.natAbs

/-- sense of an MCNP surface (a signed collection of TRIPOLI-4 surfaces): positive = on the
positive side of some member; facet `j` = the j-th member -/
def surfValOf (m : Matching) (σ : TSense) : SurfVal := fun n sub =>
  match m.get? n with
  | none => false
  | some ids =>
    match sub with
    | none => ids.any (litT σ)
    | some j => litT σ (if j == 0 then ids.getLast?.getD 0 else ids.getD (j - 1) 0)

mutual
def FTree.eval (m : Matching) (σ : TSense) (cv : Nat → Bool) : FTree → Bool
  | .lit s => litT σ s
  | .msurf n sub => litSurf (surfValOf m σ) n sub
  | .cref c => cv c
  | .node _ .inter args => FTree.evalAll m σ cv args
  | .node _ .union args => FTree.evalAny m σ cv args
def FTree.evalAll (m : Matching) (σ : TSense) (cv : Nat → Bool) : List FTree → Bool
  | [] => true
  | t :: ts => FTree.eval m σ cv t && FTree.evalAll m σ cv ts
def FTree.evalAny (m : Matching) (σ : TSense) (cv : Nat → Bool) : List FTree → Bool
  | [] => false
  | t :: ts => FTree.eval m σ cv t || FTree.evalAny m σ cv ts
end

mutual
/-- node ids, pre-order -/
def FTree.ids : FTree → List Nat
  | .lit _ => []
  | .msurf .. => []
  | .cref _ => []
  | .node id _ args => id :: FTree.idsList args
def FTree.idsList : List FTree → List Nat
  | [] => []
  | t :: ts => t.ids ++ FTree.idsList ts
end

mutual
/-- no unexpanded MCNP surface, no literal 0 -/
def FTree.expanded : FTree → Bool
  | .lit s => s != 0
  | .msurf .. => false
  | .cref _ => true
  | .node _ _ args => FTree.expandedList args
def FTree.expandedList : List FTree → Bool
  | [] => true
  | t :: ts => t.expanded && FTree.expandedList ts
end

mutual
def FTree.nonzero : FTree → Bool
  | .lit s => s != 0
  | .msurf n _ => n != 0
  | .cref _ => true
  | .node _ _ args => FTree.nonzeroList args
def FTree.nonzeroList : List FTree → Bool
  | [] => true
  | t :: ts => t.nonzero && FTree.nonzeroList ts
end

/-! The list companions of the mutual definitions are the ordinary list operations; with these equations the
list library (`all_append`, `all_map`, `flatMap_append`, `all_filter` …) applies to them. -/

theorem FTree.evalAll_eq (m : Matching) (σ : TSense) (cv : Nat → Bool) (ts : List FTree) :
    FTree.evalAll m σ cv ts = ts.all (FTree.eval m σ cv) := by
  induction ts with
  | nil => rfl
  | cons t ts ih => simp [FTree.evalAll, ih]

theorem FTree.evalAny_eq (m : Matching) (σ : TSense) (cv : Nat → Bool) (ts : List FTree) :
    FTree.evalAny m σ cv ts = ts.any (FTree.eval m σ cv) := by
  induction ts with
  | nil => rfl
  | cons t ts ih => simp [FTree.evalAny, ih]

theorem FTree.idsList_eq (ts : List FTree) : FTree.idsList ts = ts.flatMap FTree.ids := by
  induction ts with
  | nil => rfl
  | cons t ts ih => simp [FTree.idsList, ih]

theorem FTree.expandedList_eq (ts : List FTree) : FTree.expandedList ts = ts.all FTree.expanded := by
  induction ts with
  | nil => rfl
  | cons t ts ih => simp [FTree.expandedList, ih]

theorem all_and {α} (p q : α → Bool) (l : List α) : (l.all p && l.all q) = l.all fun a => p a && q a := by
  induction l with
  | nil => rfl
  | cons a l ih => rw [List.all_cons, List.all_cons, List.all_cons, ← ih]; ac_rfl

theorem any_or {α} (p q : α → Bool) (l : List α) : (l.any p || l.any q) = l.any fun a => p a || q a := by
  induction l with
  | nil => rfl
  | cons a l ih => rw [List.any_cons, List.any_cons, List.any_cons, ← ih]; ac_rfl

theorem all_congr_mem {α} {p q : α → Bool} {l : List α} (h : ∀ a ∈ l, p a = q a) : l.all p = l.all q := by
  rw [Bool.eq_iff_iff, List.all_eq_true, List.all_eq_true]
  exact forall₂_congr fun a ha => by rw [h a ha]

-- `litT` is `litSurf` at a valuation that ignores the facet
theorem litT_neg (σ : TSense) (s : Int) (h : s ≠ 0) : litT σ (-s) = !litT σ s :=
  litSurf_neg (fun k _ => σ k) s none h

/-! ## pot_flag -/

/-- ids of a tree lie in `(lo, hi]` and are pairwise distinct -/
def IdsIn (ids : List Nat) (lo hi : Nat) : Prop := ids.Nodup ∧ ∀ i ∈ ids, lo < i ∧ i ≤ hi

theorem IdsIn.mono {ids lo hi lo' hi'} (h : IdsIn ids lo hi) (h1 : lo' ≤ lo) (h2 : hi ≤ hi') :
    IdsIn ids lo' hi' :=
  ⟨h.1, fun i hi_ => ⟨by have := (h.2 i hi_).1; omega, by have := (h.2 i hi_).2; omega⟩⟩

/-- the id bookkeeping of `pot_flag` (nothing old: `IdsIn.append`) and of `pot_expand_surfs` composes: first `a ↦ a'`
while the counter goes from `k` to `k1`, then `b ↦ b'` while it goes on to `k2` -/
theorem expandIds_append {k k1 k2 : Nat} {a a' b b' : List Nat} (h1 : k ≤ k1) (h2 : k1 ≤ k2)
    (ia : ∀ i ∈ a', i ∈ a ∨ (k < i ∧ i ≤ k1)) (ib : ∀ i ∈ b', i ∈ b ∨ (k1 < i ∧ i ≤ k2))
    (na : a.Nodup → (∀ i ∈ a, i ≤ k) → a'.Nodup) (nb : b.Nodup → (∀ i ∈ b, i ≤ k1) → b'.Nodup) :
    (∀ i ∈ a' ++ b', i ∈ a ++ b ∨ (k < i ∧ i ≤ k2)) ∧
    ((a ++ b).Nodup → (∀ i ∈ a ++ b, i ≤ k) → (a' ++ b').Nodup) := by
  refine ⟨fun i hi => ?_, fun hnd hle => ?_⟩
  · simp only [List.mem_append] at hi ⊢
    rcases hi with hi | hi
    · rcases ia i hi with h' | h'
      · exact Or.inl (Or.inl h')
      · exact Or.inr ⟨h'.1, Nat.le_trans h'.2 h2⟩
    · rcases ib i hi with h' | h'
      · exact Or.inl (Or.inr h')
      · exact Or.inr ⟨Nat.lt_of_le_of_lt h1 h'.1, h'.2⟩
  · rw [List.nodup_append] at hnd ⊢
    obtain ⟨n1, n2, hdis⟩ := hnd
    have le1 : ∀ i ∈ a, i ≤ k := fun i hi => hle i (List.mem_append_left _ hi)
    have le2 : ∀ i ∈ b, i ≤ k := fun i hi => hle i (List.mem_append_right _ hi)
    refine ⟨na n1 le1, nb n2 (fun i hi => Nat.le_trans (le2 i hi) h1), ?_⟩
    intro x hx y hy hxy
    subst hxy
    -- an old id is at most `k`, an id handed out in the first phase at most `k1`, one of the second above `k1`
    rcases ia x hx with hx1 | hx1 <;> rcases ib x hy with hy1 | hy1
    · exact hdis x hx1 x hy1 rfl
    · have := le1 x hx1; omega
    · have := le2 x hy1; omega
    · omega

theorem IdsIn.append {a b lo mid hi} (ha : IdsIn a lo mid) (hb : IdsIn b mid hi) (hlm : lo ≤ mid)
    (hmh : mid ≤ hi) : IdsIn (a ++ b) lo hi :=
  let ⟨hi', hn⟩ := expandIds_append (a := []) (b := []) hlm hmh (fun i h => Or.inr (ha.2 i h))
    (fun i h => Or.inr (hb.2 i h)) (fun _ _ => ha.1) (fun _ _ => hb.1)
  ⟨hn List.nodup_nil (fun _ h => nomatch h), fun i h => (hi' i h).resolve_left (fun h => nomatch h)⟩

/-- what `pot_flag` guarantees, for a tree and for an argument list (read as a conjunction and as a disjunction) -/
structure FlagPost (k k' : Nat) (ids : List Nat) (nz nz' cf : Bool) (sem : Prop) : Prop where
  le : k ≤ k'
  ids : IdsIn ids k k'
  nonzero : nz = true → nz' = true
  eval : cf = true → sem

mutual
theorem potFlag_spec : ∀ (g : Geom) (k : Nat),
    FlagPost k (potFlag g k).2 (potFlag g k).1.ids g.nonzero (potFlag g k).1.nonzero g.complFree
      (∀ m σ cv, (potFlag g k).1.eval m σ cv = g.eval (surfValOf m σ) cv)
  | .surf n sub, k =>
      ⟨Nat.le_refl k, by simp [potFlag, FTree.ids, IdsIn],
        fun h => by simpa [potFlag, FTree.nonzero, Geom.nonzero] using h,
        fun _ m σ cv => by simp [potFlag, FTree.eval, Geom.eval]⟩
  | .cref c, k =>
      ⟨Nat.le_refl k, by simp [potFlag, FTree.ids, IdsIn], fun _ => by simp [potFlag, FTree.nonzero],
        fun _ m σ cv => by simp [potFlag, FTree.eval, Geom.eval]⟩
  | .compl c, k =>
      ⟨Nat.le_refl k, by simp [potFlag, FTree.ids, IdsIn], fun _ => by simp [potFlag, FTree.nonzero],
        fun h => by simp [Geom.complFree] at h⟩
  | .node op args, k => by
      have ih := potFlagList_spec args k
      refine ⟨Nat.le_succ_of_le ih.le, ?_, fun h => ?_, fun h m σ cv => ?_⟩
      · -- the node's own id is one above those of its arguments
        simp only [potFlag, FTree.ids]
        refine ⟨List.nodup_cons.mpr ⟨fun hm => ?_, ih.ids.1⟩, fun i hi => ?_⟩
        · have := (ih.ids.2 _ hm).2; omega
        · rcases List.mem_cons.mp hi with rfl | hi
          · have := ih.le; omega
          · have := ih.ids.2 i hi; omega
      · simpa [potFlag, FTree.nonzero] using ih.nonzero (by simpa [Geom.nonzero] using h)
      · have := ih.eval (by simpa [Geom.complFree] using h) m σ cv
        cases op <;> simp [potFlag, FTree.eval, Geom.eval, this.1, this.2]
theorem potFlagList_spec : ∀ (gs : List Geom) (k : Nat),
    FlagPost k (potFlagList gs k).2 (FTree.idsList (potFlagList gs k).1) (Geom.nonzeroList gs)
      (FTree.nonzeroList (potFlagList gs k).1) (Geom.complFreeList gs)
      (∀ m σ cv, FTree.evalAll m σ cv (potFlagList gs k).1 = Geom.evalAll (surfValOf m σ) cv gs ∧
        FTree.evalAny m σ cv (potFlagList gs k).1 = Geom.evalAny (surfValOf m σ) cv gs)
  | [], k =>
      ⟨Nat.le_refl k, by simp [potFlagList, FTree.idsList, IdsIn], fun _ => by simp [potFlagList, FTree.nonzeroList],
        fun _ m σ cv => by simp [potFlagList, FTree.evalAll, FTree.evalAny, Geom.evalAll, Geom.evalAny]⟩
  | g :: gs, k => by
      have h1 := potFlag_spec g k
      have h2 := potFlagList_spec gs (potFlag g k).2
      refine ⟨Nat.le_trans h1.le h2.le, IdsIn.append h1.ids h2.ids h1.le h2.le, fun h => ?_, fun h m σ cv => ?_⟩
      · simp only [Geom.nonzeroList, Bool.and_eq_true] at h
        simp [potFlagList, FTree.nonzeroList, h1.nonzero h.1, h2.nonzero h.2]
      · simp only [Geom.complFreeList, Bool.and_eq_true] at h
        simp [potFlagList, FTree.evalAll, FTree.evalAny, Geom.evalAll, Geom.evalAny, h1.eval h.1 m σ cv,
          h2.eval h.2 m σ cv]
end

theorem potFlagList_eval (m : Matching) (σ : TSense) (cv : Nat → Bool) :
    ∀ (gs : List Geom) (k : Nat), Geom.complFreeList gs = true →
      FTree.evalAll m σ cv (potFlagList gs k).1 = Geom.evalAll (surfValOf m σ) cv gs ∧
      FTree.evalAny m σ cv (potFlagList gs k).1 = Geom.evalAny (surfValOf m σ) cv gs :=
  fun gs k h => (potFlagList_spec gs k).eval h m σ cv

theorem potFlagList_ids : ∀ (gs : List Geom) (k : Nat),
    k ≤ (potFlagList gs k).2 ∧ IdsIn (FTree.idsList (potFlagList gs k).1) k (potFlagList gs k).2 :=
  fun gs k => ⟨(potFlagList_spec gs k).le, (potFlagList_spec gs k).ids⟩

theorem potFlagList_nonzero : ∀ (gs : List Geom) (k : Nat), Geom.nonzeroList gs = true →
    FTree.nonzeroList (potFlagList gs k).1 = true :=
  fun gs k => (potFlagList_spec gs k).nonzero

/-! ## pot_expand_surfs -/

/-- every collection is non-empty and mentions no surface 0 -/
def MatchOK (m : Matching) : Prop := ∀ n ids, m.get? n = some ids → ids ≠ [] ∧ ∀ s ∈ ids, s ≠ 0

theorem idsList_map_lit (f : Int → Int) (ids : List Int) :
    FTree.idsList (ids.map fun s => FTree.lit (f s)) = [] := by
  simp [FTree.idsList_eq, List.flatMap_map, FTree.ids]

theorem expandedList_map_lit (f : Int → Int) (ids : List Int) (h : ∀ s ∈ ids, f s ≠ 0) :
    FTree.expandedList (ids.map fun s => FTree.lit (f s)) = true := by
  simpa [FTree.expandedList_eq, List.all_map, FTree.expanded] using h

/-- the facet literal chosen by `pot_expand_surfs` is a member of the collection -/
theorem facet_pick_mem (ids : List Int) (j : Nat) (hne : ids ≠ []) (hj : ¬ j > ids.length) :
    (if j == 0 then ids.getLast?.getD 0 else ids.getD (j - 1) 0) ∈ ids := by
  by_cases h0 : j = 0
  · subst h0
    simp only [beq_self_eq_true, if_true]
    cases hl : ids.getLast? with
    | none => simp [List.getLast?_eq_none_iff] at hl; exact absurd hl hne
    | some a => simpa using List.mem_of_getLast? hl
  · have : (j == 0) = false := by simpa using h0
    simp only [this, Bool.false_eq_true, if_false]
    have hlt : j - 1 < ids.length := by omega
    rw [List.getD_eq_getElem?_getD, List.getElem?_eq_getElem hlt]
    simp

/-- what `pot_expand_surfs` guarantees for a tree, stated on its ids, value and `expanded` flag: the ids of the result are
old ones or fresh ones in `(k, k']`, and stay pairwise different if the old ones were and lay at most at `k` -/
structure ExpandPost (m : Matching) (σ : TSense) (cv : Nat → Bool) (tids : List Nat) (teval : Bool)
    (k : Nat) (t'ids : List Nat) (t'eval : Bool) (t'exp : Bool) (k' : Nat) : Prop where
  le : k ≤ k'
  eval : t'eval = teval
  expanded : t'exp = true
  ids : ∀ i ∈ t'ids, i ∈ tids ∨ (k < i ∧ i ≤ k')
  nodup : tids.Nodup → (∀ i ∈ tids, i ≤ k) → t'ids.Nodup

structure ExpandListPost (m : Matching) (σ : TSense) (cv : Nat → Bool) (ts : List FTree) (k : Nat)
    (ts' : List FTree) (k' : Nat) : Prop where
  le : k ≤ k'
  evalAll : FTree.evalAll m σ cv ts' = FTree.evalAll m σ cv ts
  evalAny : FTree.evalAny m σ cv ts' = FTree.evalAny m σ cv ts
  expanded : FTree.expandedList ts' = true
  ids : ∀ i ∈ FTree.idsList ts', i ∈ FTree.idsList ts ∨ (k < i ∧ i ≤ k')
  nodup : (FTree.idsList ts).Nodup → (∀ i ∈ FTree.idsList ts, i ≤ k) → (FTree.idsList ts').Nodup

theorem ExpandPost.fresh_node (m : Matching) (σ : TSense) (cv : Nat → Bool) {teval : Bool} (k : Nat) (op : Op)
    {args : List FTree} (hids : FTree.idsList args = []) (hx : FTree.expandedList args = true)
    (hev : (FTree.node (k + 1) op args).eval m σ cv = teval) :
    ExpandPost m σ cv [] teval k (FTree.node (k + 1) op args).ids ((FTree.node (k + 1) op args).eval m σ cv)
      (FTree.node (k + 1) op args).expanded (k + 1) := by
  refine ⟨Nat.le_succ k, hev, by simpa [FTree.expanded] using hx, fun i hi => ?_, fun _ _ => by simp [FTree.ids, hids]⟩
  simp only [FTree.ids, hids, List.mem_singleton] at hi
  exact Or.inr ⟨by omega, by omega⟩

/-- one member `s` of the collection, with the sign of the reference, stands for the surface -/
theorem ExpandPost.lit (m : Matching) (σ : TSense) (cv : Nat → Bool) {n : Int} {sub : Option Nat} {s : Int} (k : Nat)
    (hs : s ≠ 0) (hsv : surfValOf m σ n.natAbs sub = litT σ s) :
    ExpandPost m σ cv [] ((FTree.msurf n sub).eval m σ cv) k (FTree.lit (if n > 0 then s else -s)).ids
      ((FTree.lit (if n > 0 then s else -s)).eval m σ cv) (FTree.lit (if n > 0 then s else -s)).expanded k := by
  refine ⟨Nat.le_refl _, ?_, ?_, fun i hi => by simp [FTree.ids] at hi, fun _ _ => by simp [FTree.ids]⟩
  · simp only [FTree.eval, litSurf, hsv]
    by_cases hp : n > 0
    · simp [hp]
    · simp [hp, litT_neg σ _ hs]
  · simp only [FTree.expanded, bne_iff_ne, ne_eq]
    by_cases hp : n > 0
    · simpa [hp] using hs
    · simp only [hp, if_false]; omega

mutual
theorem potExpand_ok (m : Matching) (hm : MatchOK m) (σ : TSense) (cv : Nat → Bool) :
    ∀ (t : FTree) (k : Nat) (t' : FTree) (k' : Nat), t.nonzero = true →
      potExpand m t k = .ok (t', k') →
      ExpandPost m σ cv t.ids (t.eval m σ cv) k t'.ids (t'.eval m σ cv) t'.expanded k'
  | .lit s, k, t', k', hz, h => by
      simp only [potExpand, Except.ok.injEq, Prod.mk.injEq] at h
      obtain ⟨rfl, rfl⟩ := h
      exact ⟨Nat.le_refl _, rfl, by simpa [FTree.expanded, FTree.nonzero] using hz,
        fun i hi => Or.inl hi, fun h _ => h⟩
  | .cref c, k, t', k', _, h => by
      simp only [potExpand, Except.ok.injEq, Prod.mk.injEq] at h
      obtain ⟨rfl, rfl⟩ := h
      exact ⟨Nat.le_refl _, rfl, rfl, fun i hi => Or.inl hi, fun h _ => h⟩
  | .msurf n sub, k, t', k', hz, h => by
      simp only [FTree.nonzero, bne_iff_ne, ne_eq] at hz
      simp only [potExpand] at h
      split at h
      · cases h
      next ids hg =>
        obtain ⟨hne, hnz⟩ := hm _ _ hg
        cases sub with
        | some j =>
          simp only at h
          split at h
          · cases h
          next hj =>
            simp only [Except.ok.injEq, Prod.mk.injEq] at h
            obtain ⟨rfl, rfl⟩ := h
            exact ExpandPost.lit m σ cv k (hnz _ (facet_pick_mem ids j hne hj)) (by simp only [surfValOf, hg])
        | none =>
          have hsv : surfValOf m σ n.natAbs none = ids.any (litT σ) := by simp only [surfValOf, hg]
          cases ids with
          | nil => exact absurd rfl hne
          | cons a r =>
            cases r with
            | nil =>
              simp only [Except.ok.injEq, Prod.mk.injEq] at h
              obtain ⟨rfl, rfl⟩ := h
              exact ExpandPost.lit m σ cv k (hnz a (by simp)) (by simp [hsv])
            | cons b r' =>
              simp only at h
              split at h
              next hneg =>
                simp only [Except.ok.injEq, Prod.mk.injEq] at h
                obtain ⟨rfl, rfl⟩ := h
                refine ExpandPost.fresh_node m σ cv k .inter (idsList_map_lit (fun s => -s) _)
                  (expandedList_map_lit (fun s => -s) _ fun s hs => by have := hnz s hs; omega) ?_
                have hp : ¬ n > 0 := by omega
                simp only [FTree.eval, litSurf, hsv, hp, if_false]
                rw [FTree.evalAll_eq, List.all_map, List.not_any_eq_all_not]
                exact all_congr_mem fun s hs => by simp [FTree.eval, litT_neg σ s (hnz s hs)]
              next hneg =>
                simp only [Except.ok.injEq, Prod.mk.injEq] at h
                obtain ⟨rfl, rfl⟩ := h
                refine ExpandPost.fresh_node m σ cv k .union (idsList_map_lit (fun s => s) _)
                  (expandedList_map_lit (fun s => s) _ hnz) ?_
                have hp : n > 0 := by omega
                simp only [FTree.eval, litSurf, hsv, hp, if_true]
                rw [FTree.evalAny_eq, List.any_map]
                rfl
  | .node nid op args, k, t', k', hz, h => by
      simp only [potExpand, Except.bind_eq_ok_iff, Prod.exists, Except.ok.injEq, Prod.mk.injEq] at h
      obtain ⟨args', k2, hr, rfl, rfl⟩ := h
      have ih := potExpandList_ok m hm σ cv args k args' k2 (by simpa [FTree.nonzero] using hz) hr
      -- the node's own id: a first phase that hands out nothing
      obtain ⟨hi, hn⟩ := expandIds_append (a := [nid]) (a' := [nid]) (Nat.le_refl k) ih.le (fun i hi => Or.inl hi)
        ih.ids (fun h _ => h) ih.nodup
      refine ⟨ih.le, ?_, by simpa [FTree.expanded] using ih.expanded, hi, hn⟩
      cases op <;> simp [FTree.eval, ih.evalAll, ih.evalAny]

theorem potExpandList_ok (m : Matching) (hm : MatchOK m) (σ : TSense) (cv : Nat → Bool) :
    ∀ (ts : List FTree) (k : Nat) (ts' : List FTree) (k' : Nat), FTree.nonzeroList ts = true →
      potExpandList m ts k = .ok (ts', k') → ExpandListPost m σ cv ts k ts' k'
  | [], k, ts', k', _, h => by
      simp only [potExpandList, Except.ok.injEq, Prod.mk.injEq] at h
      obtain ⟨rfl, rfl⟩ := h
      exact ⟨Nat.le_refl _, rfl, rfl, rfl, fun i hi => Or.inl hi, fun h _ => h⟩
  | t :: ts, k, ts', k', hz, h => by
      simp only [FTree.nonzeroList, Bool.and_eq_true] at hz
      simp only [potExpandList, Except.bind_eq_ok_iff, Prod.exists, Except.ok.injEq, Prod.mk.injEq] at h
      obtain ⟨t1, k1, h1, ts2, k2, h2, rfl, rfl⟩ := h
      have p1 := potExpand_ok m hm σ cv t k t1 k1 hz.1 h1
      have p2 := potExpandList_ok m hm σ cv ts k1 ts2 k2 hz.2 h2
      obtain ⟨hi, hn⟩ := expandIds_append p1.le p2.le p1.ids p2.ids p1.nodup p2.nodup
      exact ⟨Nat.le_trans p1.le p2.le, by simp [FTree.evalAll, p1.eval, p2.evalAll],
        by simp [FTree.evalAny, p1.eval, p2.evalAny], by simp [FTree.expandedList, p1.expanded, p2.expanded], hi, hn⟩
end

end T4V
