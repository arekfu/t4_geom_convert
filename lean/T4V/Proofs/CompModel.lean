import T4V.Model.Composition
import T4V.Proofs.Bind
/-!
# The composition model, step by step

`convLoop`, `convCard` and `compsOf` stop at the first error.  What a successful run says about one step is stated here
once, so that no proof about them has to split the definitions again.
-/
namespace T4V.CM

theorem pyInt_spec (s : List Char) (n : Nat) (h : pyInt? s = some n) :
    s ≠ [] ∧ (∀ c ∈ s, isDig c = true) ∧ n = digitsNat s := by
  unfold pyInt? at h
  split at h
  · simp at h
  · rename_i hc
    simp only [Option.some.injEq] at h
    simp only [Bool.or_eq_true, Bool.not_eq_eq_eq_not, Bool.not_true, not_or, Bool.not_eq_true] at hc
    exact ⟨by intro he; simp [he] at hc, by simpa using hc.2, h.symm⟩

theorem convLoop_cons_ok {pos : Bool} {zaid f : List Char} {r : List (List Char × List Char)}
    {ns : List (String × List Char)} (h : convLoop pos ((zaid, f) :: r) = .ok ns) :
    (!isNeg f) = pos ∧ strFabs f ≠ [] ∧ ∃ z a ns', isoParts zaid = .ok (z, a) ∧ convLoop pos r = .ok ns' ∧
      ns = (isoName z a, normalizeFloat (strFabs f)) :: ns' := by
  unfold convLoop at h
  obtain ⟨hs, h⟩ := ok_of_guard h
  split at h
  · simp at h
  · rename_i z a hz
    obtain ⟨he, h⟩ := ok_of_guard h
    split at h
    · simp at h
    · rename_i ns' hr
      simp only [Except.ok.injEq] at h
      exact ⟨Decidable.of_not_not (mt bne_iff_ne.mpr hs), by simpa using he, z, a, ns', hz, hr, h.symm⟩

theorem convCard_ok {ps : List (List Char × List Char)} {ab : Abund} (h : convCard ps = .ok ab) :
    convLoop ab.atomFracs ps = .ok ab.isotopes := by
  unfold convCard at h
  split at h
  · simp only [Except.ok.injEq] at h
    subst h
    rfl
  · split at h
    · simp at h
    · rename_i ns hl
      simp only [Except.ok.injEq] at h
      subst h
      exact hl

/-- the composition `compsOf` makes of a material for one density literal; `neg`: the density is a mass density -/
def compOf (key : Nat) (ab : Abund) (d : List Char) (neg : Bool) : Comp :=
  if neg then { kind := "DENSITY", name := "m" ++ toString key, density := normalizeFloat d,
                isotopes := ab.isotopes, nbAtom := ab.atomFracs }
  else { kind := "POINT_WISE", name := "m" ++ toString key, density := normalizeFloat d,
         isotopes := if ab.atomFracs then ab.isotopes.map fun (n, _) => (n, ['*']) else [],
         nbAtom := ab.atomFracs }

/-- where each composition comes from, and that every live cell finds the one of its density -/
theorem compsOf_mem (key : Nat) (ab : Abund) : ∀ (cells : List CCell) (seen : List (List Char)) (cs : List Comp),
    compsOf key ab cells seen = .ok cs →
      (∀ c ∈ cs, ∃ cell ∈ cells, ∃ neg, densNeg? cell.density = some neg ∧ c = compOf key ab cell.density neg) ∧
      ∀ cell ∈ cells, cell.live = true → cell.mat = key → cell.density ∉ seen →
        ∃ neg, compOf key ab cell.density neg ∈ cs
  | [], seen, cs, h => by
    simp only [compsOf, Except.ok.injEq] at h
    subst h
    exact ⟨List.forall_mem_nil _, List.forall_mem_nil _⟩
  | c0 :: r, seen, cs, h => by
    unfold compsOf at h
    split at h
    · rename_i hskip
      obtain ⟨ih1, ih2⟩ := compsOf_mem key ab r seen cs h
      refine ⟨fun c hc => ?_, List.forall_mem_cons.mpr ⟨fun hl hm hs => ?_, ih2⟩⟩
      · obtain ⟨cell, hcell, hp⟩ := ih1 c hc
        exact ⟨cell, List.mem_cons_of_mem _ hcell, hp⟩
      · simp [hl, hm, hs] at hskip
    · split at h
      · simp at h
      · rename_i neg hneg
        simp only at h
        obtain ⟨_, h⟩ := ok_of_guard h
        obtain ⟨_, h⟩ := ok_of_guard h
        split at h
        · simp at h
        · rename_i cs' hr
          simp only [Except.ok.injEq] at h
          obtain rfl : cs = compOf key ab c0.density neg :: cs' := h.symm
          obtain ⟨ih1, ih2⟩ := compsOf_mem key ab r (c0.density :: seen) cs' hr
          refine ⟨List.forall_mem_cons.mpr ⟨⟨c0, List.mem_cons_self, neg, hneg, rfl⟩, fun c hc => ?_⟩,
            List.forall_mem_cons.mpr ⟨fun _ _ _ => ⟨neg, List.mem_cons_self⟩, fun cell hc hl hm hs => ?_⟩⟩
          · obtain ⟨cell, hcell, hp⟩ := ih1 c hc
            exact ⟨cell, List.mem_cons_of_mem _ hcell, hp⟩
          -- a later cell with the density of `c0` finds the composition of `c0`
          · by_cases hd : cell.density = c0.density
            · exact ⟨neg, hd ▸ List.mem_cons_self⟩
            · obtain ⟨n, hn⟩ := ih2 cell hc hl hm (by simp [hd, hs])
              exact ⟨n, List.mem_cons_of_mem _ hn⟩

end T4V.CM
