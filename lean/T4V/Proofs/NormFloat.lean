import T4V.Text.NormFloat
import T4V.Proofs.Scan
import Mathlib.Data.List.DropRight
/-!
# How `normalize_float` and the literal reader scan a literal

Passes 1 and 3 of `normalize_float` and `parseRealLit` each begin with the same scan: an optional sign, digits, an
optional point with more digits, and what is left.  `parts` names it; each of the three functions is a case
distinction on its five parts, which are consecutive pieces of the literal.
-/
namespace T4V.CMP

/-- the mantissa split of `nfInsertE` / `parseRealLit`: (fraction digits, rest, has a point) -/
def fracSplit (r1 : List Char) : List Char × List Char × Bool :=
  match r1 with
  | '.' :: t => (t.takeWhile isDig, t.dropWhile isDig, true)
  | t => ([], t, false)

theorem fracSplit_dot (t : List Char) : fracSplit ('.' :: t) = (t.takeWhile isDig, t.dropWhile isDig, true) := rfl

theorem fracSplit_ne (d : Char) (t : List Char) (hd : d ≠ '.') : fracSplit (d :: t) = ([], d :: t, false) := by
  unfold fracSplit
  split
  · rename_i heq; simp only [List.cons.injEq] at heq; exact absurd heq.1 hd
  · rfl

end T4V.CMP

namespace T4V.NF
open T4V.CMP

/-- the parts of a literal: sign characters, integer digits, fraction digits, what follows the mantissa, and whether
there is a point -/
structure Parts where
  sg : List Char
  ip : List Char
  fp : List Char
  rest : List Char
  pt : Bool

def parts (s : List Char) : Parts :=
  let r := (splitSign s).2
  let fs := fracSplit (r.dropWhile isDig)
  ⟨(splitSign s).1, r.takeWhile isDig, fs.1, fs.2.1, fs.2.2⟩

theorem splitSign_append (s : List Char) : (splitSign s).1 ++ (splitSign s).2 = s := by
  unfold splitSign
  split
  · split <;> rfl
  · rfl

theorem fracSplit_append (r1 : List Char) :
    (if (fracSplit r1).2.2 then '.' :: (fracSplit r1).1 else []) ++ (fracSplit r1).2.1 = r1 := by
  unfold fracSplit
  split
  · simp [List.takeWhile_append_dropWhile]
  · rfl

theorem parts_append (s : List Char) :
    (parts s).sg ++ (parts s).ip ++ (if (parts s).pt then '.' :: (parts s).fp else []) ++ (parts s).rest = s := by
  unfold parts
  simp only
  rw [List.append_assoc, List.append_assoc, fracSplit_append, List.takeWhile_append_dropWhile, splitSign_append]

theorem nfStripZeros_eq (s : List Char) : nfStripZeros s =
    (let k := parts s
     if k.pt && k.rest.isEmpty && k.fp.getLast? == some '0' then k.sg ++ k.ip ++ ['.'] ++ stripZerosR k.fp else s) := by
  unfold nfStripZeros parts
  simp only
  split
  · rename_i fp heq
    -- everything after the point is a digit exactly when the scan leaves no `rest`
    rw [heq, fracSplit_dot]
    simp only [Bool.true_and, Scan.dropWhile_isEmpty]
    cases hall : fp.all isDig with
    | true => rw [List.takeWhile_eq_self_iff.mpr (List.all_eq_true.mp hall)]
    | false => rfl
  · rename_i hne
    cases h : List.dropWhile isDig (splitSign s).2 with
    | nil => rfl
    | cons d t => rw [fracSplit_ne d t (fun e => hne t (e ▸ h))]; rfl

/-! Pass 3 and the reader are written with the very `takeWhile`, `dropWhile` and `match` that `parts` names: the next two
equations hold by unfolding. -/

theorem nfInsertE_eq (s : List Char) : nfInsertE s =
    (let k := parts s
     if k.ip.isEmpty && k.fp.isEmpty then s else
     match k.rest with
     | c :: ex =>
         if isSign c && !ex.isEmpty && ex.all isDig then
           k.sg ++ k.ip ++ (if k.pt then '.' :: k.fp else []) ++ ['e', c] ++ ex
         else s
     | [] => s) := rfl

theorem parseRealLit_eq (s : List Char) : parseRealLit s =
    (let k := parts s
     if k.ip.isEmpty && k.fp.isEmpty then none else
     match k.rest with
     | [] => some { neg := k.sg == ['-'], ip := k.ip, fp := k.fp, hasPoint := k.pt, exp := none, marker := none }
     | c :: rest =>
         let (marker, rest) :=
           if c == 'e' || c == 'E' || c == 'd' || c == 'D' then (some c, rest) else (none, c :: rest)
         let (esg, ed) := splitSign rest
         if ed.isEmpty || !ed.all isDig then none
         else if marker.isNone && esg.isEmpty then none
         else some { neg := k.sg == ['-'], ip := k.ip, fp := k.fp, hasPoint := k.pt, exp := some (esg == ['-'], ed),
                     marker }) := rfl

/-! ### digits, trailing zeros, passes 2 and 4 -/

theorem nfPointZero_digits (pre ds : List Char) (hds : ∀ c ∈ ds, isDig c = true) (hne : ds ≠ []) :
    nfPointZero (pre ++ ds) = pre ++ ds := by
  unfold nfPointZero
  rw [List.getLast?_append_of_ne_nil _ hne]
  cases hl : ds.getLast? with
  | none => exact absurd (List.getLast?_eq_none_iff.mp hl) hne
  | some d =>
    have : d ≠ '.' := by intro e; subst e; exact absurd (hds _ (List.mem_of_getLast? hl)) (by decide)
    simp [this]

theorem nfMarkers_append (a b : List Char) : nfMarkers (a ++ b) = nfMarkers a ++ nfMarkers b := by
  simp [nfMarkers]

/-! `stripZerosR l` unfolds to `l.rdropWhile (· == '0')`: the lemmas about it are Mathlib's for `rdropWhile`. -/

theorem stripZerosR_append_zeros (l : List Char) (k : Nat) :
    stripZerosR (l ++ List.replicate k '0') = stripZerosR l := by
  induction k with
  | zero => simp
  | succ k ih =>
    rw [List.replicate_succ', ← List.append_assoc]
    exact (List.rdropWhile_concat_pos _ _ _ rfl).trans ih

theorem stripZerosR_subset (l : List Char) : ∀ c ∈ stripZerosR l, c ∈ l :=
  fun _ hc => (List.rdropWhile_prefix _ l).subset hc

theorem stripZerosR_decomp (fp : List Char) : ∃ k, fp = stripZerosR fp ++ List.replicate k '0' := by
  refine ⟨(fp.rtakeWhile (· == '0')).length, ?_⟩
  have : fp.rtakeWhile (· == '0') = List.replicate (fp.rtakeWhile (· == '0')).length '0' :=
    List.eq_replicate_iff.mpr ⟨rfl, fun c hc => beq_iff_eq.mp (List.mem_rtakeWhile_imp (p := (· == '0')) hc)⟩
  rw [← this]
  exact (List.rdropWhile_append_rtakeWhile (p := (· == '0'))).symm

theorem stripZerosR_noop (fp : List Char) (h : fp.getLast? ≠ some '0') : stripZerosR fp = fp :=
  List.rdropWhile_eq_self_iff.mpr fun hl hp => h (by rw [List.getLast?_eq_some_getLast hl, beq_iff_eq.mp hp])

theorem digitsNat_append (a b : List Char) : digitsNat (a ++ b) = digitsNat a * 10 ^ b.length + digitsNat b := by
  unfold digitsNat
  rw [List.foldl_append]
  generalize List.foldl (fun a d => a * 10 + (d.toNat - '0'.toNat)) 0 a = n
  induction b generalizing n with
  | nil => simp
  | cons c r ih =>
    simp only [List.foldl_cons, List.length_cons]
    rw [ih, ih (0 * 10 + (c.toNat - '0'.toNat))]
    simp only [Nat.zero_mul, Nat.zero_add, Nat.pow_succ]
    rw [Nat.add_mul, Nat.add_assoc]
    congr 1
    rw [Nat.mul_assoc, Nat.mul_comm 10]

theorem digit_le_nine (c : Char) (h : isDig c = true) : c.toNat - '0'.toNat ≤ 9 := by
  simp only [isDig, Char.isDigit, Bool.and_eq_true, decide_eq_true_eq] at h
  have h2 : c.toNat ≤ 57 := UInt32.le_iff_toNat_le.mp h.2
  have h0 : '0'.toNat = 48 := rfl
  omega

theorem digitsNat_lt : ∀ l : List Char, (∀ c ∈ l, isDig c = true) → digitsNat l < 10 ^ l.length
  | [], _ => by decide
  | c :: r, h => by
    have hd : digitsNat [c] ≤ 9 := by simpa [digitsNat] using digit_le_nine c (h c List.mem_cons_self)
    have hr := digitsNat_lt r fun x hx => h x (List.mem_cons_of_mem _ hx)
    have hm := Nat.mul_le_mul_right (10 ^ r.length) hd
    rw [← List.singleton_append, digitsNat_append, List.length_append, List.length_singleton, Nat.pow_add, Nat.pow_one]
    omega

theorem digitsNat_zeros (k : Nat) : digitsNat (List.replicate k '0') = 0 := by
  induction k with
  | zero => rfl
  | succ k ih =>
    rw [List.replicate_succ', digitsNat_append, ih]
    rfl

end T4V.NF
