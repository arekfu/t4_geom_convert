import T4V.Model.Macro
import T4V.Proofs.Bind
/-!
# Every TRIPOLI-4 surface the converter model emits carries the number of parameters its keyword expects
-/
namespace T4V.SA

variable {α : Type}

/-- the number of complementary parameters a `SurfaceMCNP` of each kind carries; `convert_quadric` and
`convert_torus` rely on it (ten coefficients, three radii) -/
def nCompl : MKind → Nat
  | .p => 0 | .s => 1 | .c => 1 | .k => 2 | .t => 3 | .sq => 10 | .gq => 10

def WFM (s : MSurf α) : Prop := s.compl.length = nCompl s.kind

def Fits (t : TSurf α) : Prop := t.ps.length = t.kind.arity

/-- `coneCard` and `planeCard`: rejected, or the surface `x` -/
theorem wfm_guard {c : Prop} [Decidable c] {x s : MSurf α} (hs : (if c then none else some x) = some s) (h : WFM x) :
    WFM s := by
  split at hs <;> cases hs
  exact h

/-- the axis cascade of `convert_plane`, `convert_cylinder`, `convert_cone`: what holds of every branch holds of the
result -/
theorem cascade {β : Type} (P : β → Prop) {a b c : Prop} [Decidable a] [Decidable b] [Decidable c] {t1 t2 t3 t4 : β}
    (h1 : P t1) (h2 : P t2) (h3 : P t3) (h4 : P t4) : P (if a then t1 else if b then t2 else if c then t3 else t4) := by
  split
  · exact h1
  · split
    · exact h2
    · split
      · exact h3
      · exact h4

theorem fits_one {t : TSurf α} {i : Int} (h : Fits t) : ∀ x ∈ [(t, i)], Fits x.1 := by
  intro x hx
  cases List.mem_singleton.mp hx
  exact h

variable [Add α] [Sub α] [Mul α] [Neg α] [OfNat α 0] [OfNat α 1] [LT α] [DecidableLT α]

theorem arity_convertSQ (ps : List α) (t : TSurf α) (h : convertSQ ps = some t) : Fits t := by
  unfold convertSQ at h
  split at h
  · simp only at h
    split at h
    · split at h
      · cases h; rfl
      · cases h; rfl
    · cases h
  · cases h

variable [Div α] [BEq α] [Transc α]

theorem wfm_axisym (axis : Nat) (ps : List α) (s : MSurf α) (hs : cadAxisym axis ps = some s) : WFM s := by
  unfold cadAxisym at hs
  -- with the `let`s gone the first `split` takes the parameter list, not `axis`
  simp only at hs
  split at hs
  · cases hs; rfl
  · split at hs
    · cases hs; rfl
    · split at hs
      · cases hs; rfl
      · cases hs; rfl
  · cases hs

theorem wfm_cadOfRaw (e1 e2 : α) (mn : String) (ps : List α) (s : MSurf α) (hs : cadOfRaw e1 e2 mn ps = some s) : WFM s := by
  unfold cadOfRaw at hs
  split at hs
  all_goals try split at hs
  -- One goal per mnemonic and accepted parameter count.  Nearly all read `some (mk…) = some s` or `none = some s`:
  -- `cases hs` settles both and leaves a count of a literal list; it fails at once on the others, so it is tried first.
  all_goals first
    | cases hs <;> rfl
    | exact wfm_guard hs rfl
    | exact wfm_axisym _ _ s hs
    -- the three-point form of `p`
    | (split at hs
       · exact wfm_guard hs rfl
       · cases hs)

theorem wfm_cadOf (e1 e2 : α) (mn : String) (ps : List α) (s : MSurf α) (hs : cadOf e1 e2 mn ps = some s) : WFM s := by
  unfold cadOf at hs
  split at hs
  · split at hs
    · exact wfm_cadOfRaw e1 e2 mn ps s hs
    · cases hs
  · cases hs

omit [Sub α] in
theorem arity_convertCone (s : MSurf α) (coll : List (TSurf α × Int)) (h : convertCone s = some coll) :
    ∀ t ∈ coll, Fits t.1 := by
  unfold convertCone at h
  split at h
  · simp only at h
    split at h
    · cases h; exact fits_one (cascade Fits rfl rfl rfl rfl)
    · rename_i n _
      -- `split at h` is slow here: it has the whole second branch to rewrite
      by_cases hn : (n == 0) = true
      · rw [if_pos hn] at h
        cases h; exact fits_one (cascade Fits rfl rfl rfl rfl)
      · rw [if_neg hn] at h
        cases h
        intro t ht
        simp only [List.mem_cons, List.not_mem_nil, or_false] at ht
        rcases ht with rfl | rfl
        · exact cascade Fits rfl rfl rfl rfl
        · exact cascade (fun x : TSurf α × Int => Fits x.1) rfl rfl rfl rfl
  · cases h

omit [Add α] [Sub α] [Mul α] [Div α] [Transc α] in
theorem arity_convertTorus (s : MSurf α) (hw : WFM s) (hk : s.kind = .t) (t : TSurf α) (h : convertTorus s = some t) :
    Fits t := by
  have hl : ([s.pt.x, s.pt.y, s.pt.z] ++ s.compl).length = 6 := by
    rw [List.length_append, hw, hk]; rfl
  revert t
  exact cascade (fun o => ∀ t, o = some t → Fits t) (fun t h => by cases h; exact hl) (fun t h => by cases h; exact hl)
    (fun t h => by cases h; exact hl) nofun

theorem arity_convertSurf (s : MSurf α) (hw : WFM s) (coll : List (TSurf α × Int)) (h : convertSurf s = some coll) :
    ∀ t ∈ coll, Fits t.1 := by
  unfold convertSurf at h
  -- one case per kind, in the order of the model: `k`, `p`, `c`, `s`, `sq`, `gq`, `t`
  split at h
  · exact arity_convertCone s coll h
  · cases h; exact fits_one (cascade Fits rfl rfl rfl rfl)
  · split at h
    · cases h; exact fits_one (cascade Fits rfl rfl rfl rfl)
    · cases h
  · split at h
    · cases h; exact fits_one rfl
    · cases h
  · obtain ⟨q, hq, rfl⟩ := Option.map_eq_some_iff.mp h
    exact fits_one (arity_convertSQ _ _ hq)
  · rename_i hk
    cases h; exact fits_one (hw.trans (congrArg nCompl hk))
  · rename_i hk
    obtain ⟨q, hq, rfl⟩ := Option.map_eq_some_iff.mp h
    exact fits_one (arity_convertTorus s hw hk _ hq)

theorem arity_convertCard (e1 e2 : α) (mn : String) (ps : List α) (coll : List (TSurf α × Int))
    (h : convertCard e1 e2 mn ps = some coll) : ∀ t ∈ coll, Fits t.1 := by
  obtain ⟨s, hc, hs⟩ := Option.bind_eq_some_iff.mp h
  exact arity_convertSurf s (wfm_cadOf e1 e2 mn ps s hc) coll hs

/-- `h` is the body of `convertMacro` after the choice of the parts (`op` = `macroParts …` or `arbParts …`) -/
theorem arity_parts (e1 e2 : α) (op : Option (List (Part α))) (coll : List (TSurf α × Int))
    (h : (do
            let parts ← op
            let colls ← parts.mapM fun (m, q, side) => (convertCard e1 e2 m q).map fun coll => coll.map fun (t, s) => (t, s * side)
            pure colls.flatten) = some coll) : ∀ t ∈ coll, Fits t.1 := by
  obtain ⟨parts, -, h⟩ := Option.bind_eq_some_iff.mp h
  obtain ⟨colls, hc, h⟩ := Option.bind_eq_some_iff.mp h
  cases h
  intro t ht
  obtain ⟨c, hcm, htc⟩ := List.mem_flatten.mp ht
  obtain ⟨⟨m, q, side⟩, -, hf⟩ := mapM_mem _ parts colls hc c hcm
  obtain ⟨cc, hcc, rfl⟩ := Option.map_eq_some_iff.mp hf
  obtain ⟨⟨t0, s0⟩, ht0, rfl⟩ := List.mem_map.mp htc
  exact arity_convertCard e1 e2 m q cc hcc (t0, s0) ht0

theorem arity_convertMacro (e1 e2 : α) (mn : String) (ps : List α) (toNat : α → Nat) (coll : List (TSurf α × Int))
    (h : convertMacro e1 e2 mn ps toNat = some coll) : ∀ t ∈ coll, Fits t.1 := by
  unfold convertMacro at h
  by_cases hm : (mn == "arb") = true
  · simp only [hm, if_true] at h
    exact arity_parts e1 e2 (arbParts e1 e2 toNat ps) coll h
  · simp only [hm, Bool.false_eq_true, if_false] at h
    exact arity_parts e1 e2 (macroParts mn ps) coll h

end T4V.SA
