import T4V.Model.ToT4
import T4V.Proofs.Bind
/-!
# Denotation of a volume dictionary; the dictionary layer
-/
namespace T4V

/-! ## Volumes and what they denote: the definitions -/

/-- sense of TRIPOLI-4 surface `n` at the point under study (`true` = PLUS side) -/
abbrev TSense := Nat → Bool

/-- `EQUA` part of a volume -/
def equa (σ : TSense) (v : Vol) : Bool := v.pluses.all σ && v.minuses.all (fun s => !σ s)

def combine (op : Op) (e : Bool) (bs : List Bool) : Bool :=
  match op with
  | .inter => e && bs.all id
  | .union => e || bs.any id

/-- does volume `k` of the dictionary contain the point? (fuel-indexed; `none` = dangling / cyclic) -/
def den (vols : List (Nat × Vol)) (σ : TSense) : Nat → Nat → Option Bool
  | 0, _ => none
  | f + 1, k =>
    match dictGet? vols k with
    | none => none
    | some v =>
      match v.ops with
      | none => some (equa σ v)
      | some (op, ids) => (ids.mapM (den vols σ f)).map (combine op (equa σ v))

def Denotes (vols : List (Nat × Vol)) (σ : TSense) (k : Nat) (b : Bool) : Prop := ∃ f, den vols σ f k = some b

def DenotesL (vols : List (Nat × Vol)) (σ : TSense) (ks : List Nat) (bs : List Bool) : Prop :=
  ∃ f, ks.mapM (den vols σ f) = some bs

/-! ## The dictionary -/

def hasKey {β} (d : List (Nat × β)) (k : Nat) : Prop := ∃ p ∈ d, p.1 = k

theorem dictGet?_some_hasKey {β} {d : List (Nat × β)} {k : Nat} {v : β} (h : dictGet? d k = some v) :
    hasKey d k :=
  ⟨(k, v), find_fst_mem h, rfl⟩

theorem hasKey_of_dictGet? {β} {d : List (Nat × β)} {k : Nat} : hasKey d k ↔ ∃ v, dictGet? d k = some v := by
  constructor
  · rintro ⟨p, hp, rfl⟩
    unfold dictGet?
    cases hf : d.find? (·.1 == p.1) with
    | none => exact absurd (List.find?_eq_none.mp hf p hp) (by simp)
    | some q => exact ⟨q.2, rfl⟩
  · rintro ⟨v, hv⟩; exact dictGet?_some_hasKey hv

theorem dictGet?_none_iff {β} {d : List (Nat × β)} {k : Nat} : dictGet? d k = none ↔ ¬ hasKey d k := by
  rw [hasKey_of_dictGet?]
  cases dictGet? d k <;> simp

theorem dictSet_fresh {β} {d : List (Nat × β)} {k : Nat} (v : β) (h : ¬ hasKey d k) :
    dictSet d k v = d ++ [(k, v)] := by
  unfold dictSet
  rw [if_neg]
  intro ha
  obtain ⟨p, hp, hk⟩ := List.any_eq_true.mp ha
  exact h ⟨p, hp, by simpa using hk⟩

theorem dictGet?_map {β γ} (f : β → γ) (d : List (Nat × β)) (k : Nat) :
    dictGet? (d.map fun p => (p.1, f p.2)) k = (dictGet? d k).map f := by
  unfold dictGet?
  rw [List.find?_map, Option.map_map, Option.map_map]
  rfl

def updAt {β} (vs : List (Nat × β)) (k : Nat) (v' : β) : List (Nat × β) :=
  vs.map fun p => if p.1 == k then (k, v') else p

theorem dictSet_eq {β} (d : List (Nat × β)) (k : Nat) (v : β) :
    dictSet d k v = if d.any (·.1 == k) then updAt d k v else d ++ [(k, v)] := rfl

theorem dictGet?_updAt_self {β} {vs : List (Nat × β)} {k : Nat} {v v' : β} (h : dictGet? vs k = some v) :
    dictGet? (updAt vs k v') k = some v' := by
  have := lookup_set vs k k v'
  rwa [if_pos (List.any_eq_true.mpr ⟨(k, v), find_fst_mem h, beq_self_eq_true k⟩), if_pos rfl] at this

theorem dictGet?_updAt_ne {β} {vs : List (Nat × β)} {k j : Nat} {v' : β} (hne : j ≠ k) :
    dictGet? (updAt vs k v') j = dictGet? vs j := by
  by_cases ha : vs.any (·.1 == k) = true
  · have := lookup_set vs k j v'
    rwa [if_pos ha, if_neg hne] at this
  · -- `k` is not bound: nothing is overwritten
    have hid : ∀ p ∈ vs, (if p.1 == k then (k, v') else p) = p := fun p hp =>
      if_neg fun e => ha (List.any_eq_true.mpr ⟨p, hp, e⟩)
    rw [updAt, List.map_congr_left hid, List.map_id']

theorem hasKey_iff_keys {β} {d : List (Nat × β)} {j : Nat} : hasKey d j ↔ j ∈ d.map (·.1) := by
  simp [hasKey]

theorem keys_updAt {β} (vs : List (Nat × β)) (k : Nat) (v' : β) : (updAt vs k v').map (·.1) = vs.map (·.1) := by
  unfold updAt
  rw [List.map_map]
  congr 1
  funext p
  by_cases h : p.1 = k <;> simp [h]

theorem hasKey_updAt {β} {vs : List (Nat × β)} {k j : Nat} {v' : β} : hasKey (updAt vs k v') j ↔ hasKey vs j := by
  rw [hasKey_iff_keys, keys_updAt, hasKey_iff_keys]

theorem mem_updAt {β} {vs : List (Nat × β)} {k : Nat} {v' : β} {p : Nat × β} (h : p ∈ updAt vs k v') :
    p ∈ vs ∨ p = (k, v') := by
  unfold updAt at h
  rw [List.mem_map] at h
  obtain ⟨q, hq, rfl⟩ := h
  by_cases hk : (q.1 == k) = true
  · right; simp [hk]
  · left; simp [hk]; exact hq

theorem dictGet?_dictSet {β} (d : List (Nat × β)) (k k' : Nat) (v : β) :
    dictGet? (dictSet d k v) k' = if k' = k then some v else dictGet? d k' :=
  lookup_set d k k' v

theorem hasKey_dictSet {β} {d : List (Nat × β)} {k j : Nat} {v : β} :
    hasKey (dictSet d k v) j ↔ hasKey d j ∨ j = k := by
  simp only [hasKey_of_dictGet?, dictGet?_dictSet]
  by_cases h : j = k <;> simp [h]

theorem dictGet?_dictSet_of_some {β} {d : List (Nat × β)} {k : Nat} (v : β) (hk : ¬ hasKey d k) {k' : Nat} {v' : β}
    (h : dictGet? d k' = some v') : dictGet? (dictSet d k v) k' = some v' := by
  have hne : k' ≠ k := fun e => hk (e ▸ dictGet?_some_hasKey h)
  rw [dictGet?_dictSet, if_neg hne]; exact h

theorem keys_map_snd {β γ} (vs : List (Nat × β)) (g : β → γ) :
    (vs.map fun p => (p.1, g p.2)).map (·.1) = vs.map (·.1) := by
  rw [List.map_map]
  rfl

theorem hasKey_map_snd {β γ} {vs : List (Nat × β)} (g : β → γ) {j : Nat} :
    hasKey (vs.map fun p => (p.1, g p.2)) j ↔ hasKey vs j := by
  rw [hasKey_iff_keys, keys_map_snd, hasKey_iff_keys]

theorem eq_of_nodup_map {α β} {f : α → β} {l : List α} (h : (l.map f).Nodup) {x y : α} (hx : x ∈ l)
    (hy : y ∈ l) (e : f x = f y) : x = y := by
  have hp : l.Pairwise fun a b => f a ≠ f b := List.pairwise_map.mp h
  exact List.Pairwise.forall_of_forall_of_flip (R := fun a b => f a = f b → a = b) (fun _ _ _ => rfl)
    (hp.imp fun hne e' => absurd e' hne) (hp.imp fun hne e' => absurd e'.symm hne) hx hy e

theorem dictGet?_of_mem {β} {vs : List (Nat × β)} (h : (vs.map (·.1)).Nodup) {k : Nat} {v : β} (hm : (k, v) ∈ vs) :
    dictGet? vs k = some v := by
  obtain ⟨v', hv'⟩ := hasKey_of_dictGet?.mp ⟨(k, v), hm, rfl⟩
  -- what is found under `k` is an entry with key `k`, and there is only one
  have e := eq_of_nodup_map h (find_fst_mem hv') hm rfl
  exact hv'.trans (congrArg some (Prod.ext_iff.mp e).2)

def idsOf (v : Vol) : List Nat := match v.ops with | some (_, ids) => ids | none => []

theorem idsOf_none {v : Vol} (h : v.ops = none) : idsOf v = [] := by simp [idsOf, h]

theorem idsOf_of_ops {v : Vol} {op : Op} {ids : List Nat} (h : v.ops = some (op, ids)) : idsOf v = ids := by
  simp [idsOf, h]

/-- every operand of every volume is a key of the dictionary -/
def Closed (vs : List (Nat × Vol)) : Prop := ∀ p ∈ vs, ∀ r ∈ idsOf p.2, hasKey vs r

/-- the keys are pairwise different (as those of a Python `dict` are) -/
def KeysNodup (vs : List (Nat × Vol)) : Prop := (vs.map (·.1)).Nodup

theorem mem_dictSet {β} {d : List (Nat × β)} {k : Nat} {v : β} {p : Nat × β} (h : p ∈ dictSet d k v) :
    p ∈ d ∨ p = (k, v) := by
  rw [dictSet_eq] at h
  split at h
  · exact mem_updAt h
  · exact (List.mem_append.mp h).imp_right List.mem_singleton.mp

theorem Closed.dictSet {d : List (Nat × Vol)} {k : Nat} {v : Vol} (h : Closed d)
    (hv : ∀ r ∈ idsOf v, hasKey d r ∨ r = k) : Closed (dictSet d k v) := by
  intro p hp r hr
  rw [hasKey_dictSet]
  rcases mem_dictSet hp with h' | h'
  · exact Or.inl (h p h' r hr)
  · subst h'; exact hv r hr

theorem KeysNodup.dictSet {d : List (Nat × Vol)} {k : Nat} {v : Vol} (h : KeysNodup d) : KeysNodup (dictSet d k v) := by
  unfold KeysNodup at *
  rw [dictSet_eq]
  split
  · rw [keys_updAt]; exact h
  next hn =>
    -- a key that is not bound is new among the keys
    have hk : k ∉ d.map (·.1) := fun hm => hn (by
      obtain ⟨q, hq, hqk⟩ := List.mem_map.mp hm
      exact List.any_eq_true.mpr ⟨q, hq, by simp [hqk]⟩)
    rw [List.map_append, List.nodup_append]
    refine ⟨h, by simp, fun a ha b hb e => hk ?_⟩
    rw [List.map_cons, List.map_nil, List.mem_singleton] at hb
    have hbk : b = k := hb
    rw [← hbk, ← e]; exact ha

/-! ## Denotation -/

/-- value of one volume, its operands being evaluated by `r`: one unfolding of `den` (and of its lax variant, used for
post-processing) -/
def evalVol (σ : TSense) (r : Nat → Option Bool) (v : Vol) : Option Bool :=
  match v.ops with
  | none => some (equa σ v)
  | some (op, ids) => (ids.mapM r).map (combine op (equa σ v))

theorem den_succ (vols : List (Nat × Vol)) (σ : TSense) (f k : Nat) :
    den vols σ (f + 1) k = (dictGet? vols k).bind (evalVol σ (den vols σ f)) := by
  rw [den]
  cases dictGet? vols k <;> rfl

theorem evalVol_mono {σ : TSense} {r r' : Nat → Option Bool} {v : Vol} {b : Bool}
    (hr : ∀ j ∈ idsOf v, ∀ b, r j = some b → r' j = some b)
    (h : evalVol σ r v = some b) : evalVol σ r' v = some b := by
  unfold evalVol idsOf at *
  cases ho : v.ops with
  | none => simpa [ho] using h
  | some x =>
    simp only [ho] at h hr ⊢
    obtain ⟨bs, hbs, rfl⟩ := Option.map_eq_some_iff.mp h
    exact Option.map_eq_some_iff.mpr ⟨bs, mapM_mono hr hbs, rfl⟩

theorem evalVol_congr {σ : TSense} (r : Nat → Option Bool) {v v' : Vol} (hops : v'.ops = v.ops)
    (heq : equa σ v' = equa σ v) : evalVol σ r v' = evalVol σ r v := by
  unfold evalVol
  rw [hops, heq]

/-- `dictSet` under a free key is such an extension -/
theorem den_mono_of {vols vols' : List (Nat × Vol)} {σ : TSense}
    (hsub : ∀ k v, dictGet? vols k = some v → dictGet? vols' k = some v) :
    ∀ {f g : Nat} (k : Nat) (b : Bool), f ≤ g → den vols σ f k = some b → den vols' σ g k = some b := by
  intro f
  induction f with
  | zero => intro g k b _ h; simp [den] at h
  | succ f ih =>
    intro g k b hle h
    obtain ⟨g, rfl⟩ : ∃ g', g = g' + 1 := ⟨g - 1, by omega⟩
    rw [den_succ] at h ⊢
    obtain ⟨v, hv, hb⟩ := Option.bind_eq_some_iff.mp h
    exact Option.bind_eq_some_iff.mpr ⟨v, hsub k v hv, evalVol_mono (fun j _ b => ih j b (by omega)) hb⟩

theorem den_ext_fresh {vols : List (Nat × Vol)} {σ : TSense} {n : Nat} (hn : ¬ hasKey vols n) (v' : Vol) :
    ∀ f k b, den vols σ f k = some b → den (vols ++ [(n, v')]) σ f k = some b :=
  fun f k b h => dictSet_fresh v' hn ▸ den_mono_of (fun _ _ => dictGet?_dictSet_of_some v' hn) k b (Nat.le_refl f) h

theorem den_mono_le {vols : List (Nat × Vol)} {σ : TSense} {f g k b} (h : den vols σ f k = some b)
    (hle : f ≤ g) : den vols σ g k = some b :=
  den_mono_of (fun _ _ h => h) k b hle h

/-- a volume has at most one denotation -/
theorem Denotes.unique {vols σ k b b'} (h : Denotes vols σ k b) (h' : Denotes vols σ k b') : b = b' := by
  obtain ⟨f, hf⟩ := h
  obtain ⟨g, hg⟩ := h'
  have e1 := den_mono_le hf (Nat.le_max_left f g)
  have e2 := den_mono_le hg (Nat.le_max_right f g)
  rw [e1] at e2
  exact Option.some.inj e2

/- not `Denotes.hasKey`: inside the namespace `Denotes` that name would capture the `hasKey` of later statements -/
theorem hasKey_of_denotes {vols : List (Nat × Vol)} {σ : TSense} {k : Nat} {b : Bool} (h : Denotes vols σ k b) :
    hasKey vols k := by
  obtain ⟨f, hf⟩ := h
  cases f with
  | zero => simp [den] at hf
  | succ f =>
    rw [den_succ] at hf
    obtain ⟨v, hv, -⟩ := Option.bind_eq_some_iff.mp hf
    exact dictGet?_some_hasKey hv

theorem Denotes.mono_of {vols vols' : List (Nat × Vol)} {σ k b}
    (hsub : ∀ k v, dictGet? vols k = some v → dictGet? vols' k = some v) (h : Denotes vols σ k b) :
    Denotes vols' σ k b := by
  obtain ⟨f, hf⟩ := h; exact ⟨f, den_mono_of hsub k b (Nat.le_refl f) hf⟩

theorem DenotesL.mono_of {vols vols' : List (Nat × Vol)} {σ ks bs}
    (hsub : ∀ k v, dictGet? vols k = some v → dictGet? vols' k = some v) (h : DenotesL vols σ ks bs) :
    DenotesL vols' σ ks bs := by
  obtain ⟨f, hf⟩ := h
  exact ⟨f, mapM_mono (fun a _ b => den_mono_of hsub a b (Nat.le_refl f)) hf⟩

theorem DenotesL.ext_fresh {vols σ n ks bs} (hn : ¬ hasKey vols n) (v' : Vol) (h : DenotesL vols σ ks bs) :
    DenotesL (vols ++ [(n, v')]) σ ks bs :=
  dictSet_fresh v' hn ▸ h.mono_of fun _ _ => dictGet?_dictSet_of_some v' hn

theorem DenotesL.nil {vols σ} : DenotesL vols σ [] [] := ⟨0, rfl⟩

theorem DenotesL.cons {vols σ k b ks bs} (h : Denotes vols σ k b) (hs : DenotesL vols σ ks bs) :
    DenotesL vols σ (k :: ks) (b :: bs) := by
  obtain ⟨f1, hf1⟩ := h
  obtain ⟨f2, hf2⟩ := hs
  refine ⟨max f1 f2, ?_⟩
  have e1 := den_mono_le hf1 (Nat.le_max_left f1 f2)
  have e2 := mapM_mono (fun a _ b hab => den_mono_le hab (Nat.le_max_right f1 f2)) hf2
  simp [List.mapM_cons, e1, e2]

theorem DenotesL.append {vols σ ks bs ks' bs'} (h : DenotesL vols σ ks bs) (h' : DenotesL vols σ ks' bs') :
    DenotesL vols σ (ks ++ ks') (bs ++ bs') := by
  induction ks generalizing bs with
  | nil =>
    obtain ⟨f, hf⟩ := h
    simp at hf; subst hf; simpa using h'
  | cons k ks ih =>
    obtain ⟨f, hf⟩ := h
    obtain ⟨b, hb, bs1, hbs1, rfl⟩ := mapM_cons_eq_some.mp hf
    exact DenotesL.cons ⟨f, hb⟩ (ih ⟨f, hbs1⟩)

/-- denotation of a node stored under a free key, as `pot_to_t4_cell` builds it: the operator part is left out
when there is no operand (and then the value is that of the `EQUA` part, whatever the operator) -/
theorem Denotes.store {vols : List (Nat × Vol)} {σ : TSense} {n : Nat} {v : Vol} (hn : ¬ hasKey vols n) (op : Op)
    {ids : List Nat} {bs : List Bool} (hops : v.ops = if ids.isEmpty then none else some (op, ids))
    (hd : DenotesL vols σ ids bs) : Denotes (dictSet vols n v) σ n (combine op (equa σ v) bs) := by
  obtain ⟨f, hf⟩ := (hd.mono_of fun _ _ => dictGet?_dictSet_of_some v hn)
  refine ⟨f + 1, ?_⟩
  rw [den_succ, dictGet?_dictSet, if_pos rfl, Option.bind_some, evalVol, hops]
  cases ids with
  | nil =>
    cases (by simpa using hf : bs = [])
    cases op <;> simp [combine]
  | cons i is => simp [hf]

/-- the copy `construct_volume_t4` stores under the cell's own number denotes what the converted volume does -/
theorem Denotes.copy {vols : List (Nat × Vol)} {σ : TSense} {j c : Nat} {b : Bool} {v v' : Vol}
    (hd : Denotes vols σ j b) (hg : dictGet? vols j = some v) (hc : ¬ hasKey vols c)
    (ho : v'.ops = v.ops) (he : equa σ v' = equa σ v) : Denotes (dictSet vols c v') σ c b := by
  obtain ⟨f, hf⟩ := hd
  cases f with
  | zero => simp [den] at hf
  | succ f =>
    rw [den_succ, hg, Option.bind_some] at hf
    refine ⟨f + 1, ?_⟩
    rw [den_succ, dictGet?_dictSet, if_pos rfl, Option.bind_some, evalVol_congr _ ho he]
    exact evalVol_mono (fun i _ b => den_mono_of (fun _ _ => dictGet?_dictSet_of_some v' hc) i b (Nat.le_refl f)) hf

end T4V
