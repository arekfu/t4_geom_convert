import T4V.Model.PotTransform
import T4V.Proofs.Tree
/-!
# `pot_transform` / `cell_transform` keep the Boolean structure (lemmas for property C04)

Two points are in play: `q` in the frame of the cell that is moved and its image `p`.  `σ`, `cv` are the senses of
the surfaces and the membership in the cells at `q`; `σ'`, `cv'` the same at `p`.  If every surface created by the
walk has at `p` the sense its source has at `q` (that is what the transformation of a surface card achieves,
property C04), then the tree produced by `pot_transform` holds at `p` exactly when the original tree holds at `q` —
through cell references to any depth, with or without the cache.

`pt_sound` carries the state facts (`PTStep`) along with the trees, which need them where a call goes on after a run.
-/
namespace T4V

/-- the senses of the surfaces and the membership in the cells at the original point (`σ`, `cv`) and at its image
(`σ'`, `cv'`) -/
structure Vals where
  σ : SurfVal
  σ' : SurfVal
  cv : Nat → Bool
  cv' : Nat → Bool

/-- every cache entry was made by a logged `cell_transform` -/
def CacheInMade (st : PTSt) : Prop :=
  ∀ c tr k, ((c, tr), k) ∈ st.cache → ∃ e ∈ st.made, e.cell = c ∧ e.tr = tr ∧ e.new = k

/-- the valuations at the two points agree on what the walk created -/
def Agree (tr : Nat) (st : PTSt) (v : Vals) : Prop :=
  (∀ k n sub, (k, (n, sub, tr)) ∈ st.newSurfs → v.σ' k none = v.σ n sub) ∧
  (∀ e ∈ st.made, e.tr = tr → v.cv' e.new = v.cv e.cell)

/-- every logged cell has, at the image point, the value its source has at the original point -/
def MadeSound (tr : Nat) (st : PTSt) (v : Vals) : Prop :=
  ∀ e ∈ st.made, e.tr = tr → e.src.nonzero = true → e.src.complFree = true →
    e.dst.eval v.σ' v.cv' = e.src.eval v.σ v.cv

/-- the log is faithful: every logged cell is in the dictionary, with its source -/
def MadeInCells (st : PTSt) : Prop :=
  ∀ e ∈ st.made, (e.new, e.dst) ∈ st.cells ∧ (e.cell, e.src) ∈ st.cells

/-- the numbers handed out so far are pairwise different and below the counters -/
def Fresh (st : PTSt) : Prop :=
  (∀ x ∈ st.newSurfs, x.1 ≤ st.nextSurf) ∧ (st.newSurfs.map (·.1)).Nodup ∧
  (∀ e ∈ st.made, e.new ≤ st.nextCell) ∧ (st.made.map (·.new)).Nodup

/-- the state after a surface leaf (a record update without a name in the model) -/
def PTSt.addSurf (st : PTSt) (tr : Nat) (n : Int) (sub : Option Nat) : PTSt :=
  { st with nextSurf := st.nextSurf + 1, newSurfs := st.newSurfs ++ [(st.nextSurf + 1, (n.natAbs, sub, tr))] }

/-- `P1`, `P2`, `P3` hold of every successful call of `potTransform`, `potTransformList`, `cellTransform` -/
def PTRuns (tr fuel : Nat) (P1 : Geom → PTSt → Geom → PTSt → Prop) (P2 : List Geom → PTSt → List Geom → PTSt → Prop)
    (P3 : Bool → Nat → PTSt → Nat → PTSt → Prop) : Prop :=
  (∀ g st g' st', potTransform tr fuel g st = .ok (g', st') → P1 g st g' st') ∧
  (∀ gs st gs' st', potTransformList tr fuel gs st = .ok (gs', st') → P2 gs st gs' st') ∧
  (∀ uc c st k st', cellTransform tr uc fuel c st = .ok (k, st') → P3 uc c st k st')

theorem pt_induct (tr : Nat)
    {P1 : Geom → PTSt → Geom → PTSt → Prop} {P2 : List Geom → PTSt → List Geom → PTSt → Prop}
    {P3 : Bool → Nat → PTSt → Nat → PTSt → Prop}
    (surf : ∀ n sub st, P1 (.surf n sub) st
      (.surf (if n ≥ 0 then ((st.nextSurf + 1 : Nat) : Int) else -((st.nextSurf + 1 : Nat) : Int)) none)
      (st.addSurf tr n sub))
    (compl : ∀ c st, P1 (.compl c) st (.compl c) st)
    (cref : ∀ c st k st', P3 true c st k st' → P1 (.cref c) st (.cref k) st')
    (node : ∀ op args st args' st', P2 args st args' st' → P1 (.node op args) st (.node op args') st')
    (nil : ∀ st, P2 [] st [] st)
    (cons : ∀ g gs st g' st1 gs' st2, P1 g st g' st1 → P2 gs st1 gs' st2 → P2 (g :: gs) st (g' :: gs') st2)
    (hit : ∀ c st k, ((c, tr), k) ∈ st.cache → P3 true c st k st)
    (miss : ∀ uc c st t t' st1, (c, t) ∈ st.cells → P1 t st t' st1 →
      P3 uc c st (st1.nextCell + 1) (st1.addCell uc c tr t t')) :
    ∀ fuel, PTRuns tr fuel P1 P2 P3 := by
  intro fuel
  induction fuel with
  | zero => exact ⟨fun _ _ _ _ h => by simp [potTransform] at h, fun _ _ _ _ h => by simp [potTransformList] at h,
      fun _ _ _ _ _ h => by simp [cellTransform] at h⟩
  | succ f ih =>
    obtain ⟨h1, h2, h3⟩ := ih
    refine ⟨fun g st g' st' h => ?_, fun gs st gs' st' h => ?_, fun uc c st k st' h => ?_⟩
    · cases g with
      | surf n sub => cases h; exact surf n sub st
      | compl c => cases h; exact compl c st
      | cref c =>
        simp only [potTransform] at h
        split at h <;> cases h
        exact cref _ _ _ _ (h3 _ _ _ _ _ ‹_›)
      | node op args =>
        simp only [potTransform] at h
        split at h <;> cases h
        exact node _ _ _ _ _ (h2 _ _ _ _ ‹_›)
    · cases gs with
      | nil => cases h; exact nil st
      | cons g gs =>
        simp only [potTransformList] at h
        split at h
        · cases h
        split at h <;> cases h
        exact cons _ _ _ _ _ _ _ (h1 _ _ _ _ ‹_›) (h2 _ _ _ _ ‹_›)
    · simp only [cellTransform] at h
      split at h
      next hq =>
        cases h
        cases uc with
        | false => simp at hq
        | true => exact hit _ _ _ (find_fst_mem (show st.cached? c tr = some k by simpa using hq))
      next =>
        split at h
        · cases h
        split at h <;> cases h
        exact miss _ _ _ _ _ _ (find_fst_mem ‹_›) (h1 _ _ _ _ ‹_›)

section
variable {st : PTSt} {uc : Bool} {c tr : Nat} {t t' : Geom} {n : Int} {sub : Option Nat}

theorem last_made : (⟨c, tr, st.nextCell + 1, t, t'⟩ : Made) ∈ (st.addCell uc c tr t t').made :=
  List.mem_append_right _ (List.mem_singleton.mpr rfl)

theorem CacheInMade.addCell (h : CacheInMade st) : CacheInMade (st.addCell uc c tr t t') := by
  intro c2 tr2 k2 hmem
  have hold : ((c2, tr2), k2) ∈ st.cache → ∃ e ∈ (st.addCell uc c tr t t').made,
      e.cell = c2 ∧ e.tr = tr2 ∧ e.new = k2 := fun hin =>
    let ⟨e, he, hh⟩ := h c2 tr2 k2 hin
    ⟨e, List.mem_append_left _ he, hh⟩
  cases uc with
  | false => exact hold hmem
  | true =>
    simp only [PTSt.addCell, if_true, List.mem_append, List.mem_singleton, Prod.mk.injEq] at hmem
    rcases hmem with hin | ⟨⟨rfl, rfl⟩, rfl⟩
    · exact hold hin
    · exact ⟨_, last_made, rfl, rfl, rfl⟩

theorem MadeInCells.addCell (h : MadeInCells st) (hc : (c, t) ∈ st.cells) :
    MadeInCells (st.addCell uc c tr t t') := by
  intro e he
  simp only [PTSt.addCell, List.mem_append, List.mem_singleton] at he ⊢
  rcases he with he | rfl
  · exact ⟨Or.inl (h e he).1, Or.inl (h e he).2⟩
  · exact ⟨Or.inr rfl, Or.inl hc⟩

theorem fresh_snoc {α : Type} (key : α → Nat) {l : List α} {n : Nat} (hb : ∀ x ∈ l, key x ≤ n)
    (hn : (l.map key).Nodup) {y : α} (hy : key y = n + 1) :
    (∀ x ∈ l ++ [y], key x ≤ n + 1) ∧ ((l ++ [y]).map key).Nodup := by
  refine ⟨fun x hx => ?_, ?_⟩
  · rcases List.mem_append.mp hx with hx | hx
    · exact Nat.le_succ_of_le (hb x hx)
    · rw [List.mem_singleton.mp hx, hy]; exact Nat.le_refl _
  · rw [List.map_append, List.map_singleton, hy, List.nodup_append]
    refine ⟨hn, by simp, fun a ha b hb' => ?_⟩
    obtain ⟨x, hx, rfl⟩ := List.mem_map.mp ha
    have := hb x hx
    simp only [List.mem_singleton] at hb'
    omega

/-- what a run does to the state: it appends to the lists and keeps the three invariants -/
structure PTStep (a b : PTSt) : Prop where
  surfs : ∀ x ∈ a.newSurfs, x ∈ b.newSurfs
  made : ∀ x ∈ a.made, x ∈ b.made
  cells : ∀ x ∈ a.cells, x ∈ b.cells
  cache : CacheInMade a → CacheInMade b
  inCells : MadeInCells a → MadeInCells b
  fresh : Fresh a → Fresh b

theorem PTStep.refl (a : PTSt) : PTStep a a := ⟨fun _ h => h, fun _ h => h, fun _ h => h, id, id, id⟩

theorem PTStep.trans {a b c : PTSt} (h1 : PTStep a b) (h2 : PTStep b c) : PTStep a c :=
  ⟨fun x h => h2.surfs x (h1.surfs x h), fun x h => h2.made x (h1.made x h), fun x h => h2.cells x (h1.cells x h),
   h2.cache ∘ h1.cache, h2.inCells ∘ h1.inCells, h2.fresh ∘ h1.fresh⟩

theorem PTStep.addSurf : PTStep st (st.addSurf tr n sub) :=
  ⟨fun _ h => List.mem_append_left _ h, fun _ h => h, fun _ h => h, id, id, fun h =>
    let ⟨a, b⟩ := fresh_snoc Prod.fst h.1 h.2.1 rfl
    ⟨a, b, h.2.2.1, h.2.2.2⟩⟩

theorem PTStep.addCell (hc : (c, t) ∈ st.cells) : PTStep st (st.addCell uc c tr t t') :=
  ⟨fun _ h => h, fun _ h => List.mem_append_left _ h, fun _ h => List.mem_append_left _ h,
   CacheInMade.addCell, fun h => MadeInCells.addCell h hc, fun h =>
    let ⟨a, b⟩ := fresh_snoc Made.new h.2.2.1 h.2.2.2 rfl
    ⟨h.1, h.2.1, a, b⟩⟩

theorem Agree.back {a b : PTSt} {v : Vals} (h : PTStep a b) (hb : Agree tr b v) : Agree tr a v :=
  ⟨fun k n sub hk => hb.1 k n sub (h.surfs _ hk), fun e he => hb.2 e (h.made _ he)⟩

theorem MadeSound.addCell {v : Vals} (h : MadeSound tr st v)
    (ht : t.nonzero = true → t.complFree = true → t'.eval v.σ' v.cv' = t.eval v.σ v.cv) :
    MadeSound tr (st.addCell uc c tr t t') v := by
  intro e he het hz hf
  simp only [PTSt.addCell, List.mem_append, List.mem_singleton] at he
  rcases he with he | rfl
  · exact h e he het hz hf
  · exact ht hz hf
end

theorem litSurf_fresh (σ σ' : SurfVal) (n : Int) (sub : Option Nat) (k : Nat) (hk : 0 < k) (hn : n ≠ 0)
    (h : σ' k none = σ n.natAbs sub) :
    litSurf σ' (if n ≥ 0 then (k : Int) else -(k : Int)) none = litSurf σ n sub := by
  unfold litSurf
  by_cases hp : n ≥ 0
  · have hpos : n > 0 := by omega
    have hk' : (k : Int) > 0 := by omega
    simp only [hp, if_true, hk', hpos, Int.natAbs_natCast, h]
  · have hneg : ¬ n > 0 := by omega
    have hk' : ¬ (-(k : Int)) > 0 := by omega
    simp only [hp, if_false, hk', hneg, Int.natAbs_neg, Int.natAbs_natCast, h]

theorem pt_sound (tr : Nat) : ∀ fuel, PTRuns tr fuel
    (fun g st g' st' => PTStep st st' ∧ (CacheInMade st → ∀ v, Agree tr st' v → MadeSound tr st v →
      MadeSound tr st' v ∧ (g.nonzero = true → g.complFree = true → g'.eval v.σ' v.cv' = g.eval v.σ v.cv)))
    (fun gs st gs' st' => PTStep st st' ∧ (CacheInMade st → ∀ v, Agree tr st' v → MadeSound tr st v →
      MadeSound tr st' v ∧ (Geom.nonzeroList gs = true → Geom.complFreeList gs = true →
        Geom.evalAll v.σ' v.cv' gs' = Geom.evalAll v.σ v.cv gs ∧
        Geom.evalAny v.σ' v.cv' gs' = Geom.evalAny v.σ v.cv gs)))
    (fun _ c st k st' => PTStep st st' ∧ (CacheInMade st → (∃ e ∈ st'.made, e.cell = c ∧ e.tr = tr ∧ e.new = k) ∧
      ∀ v, Agree tr st' v → MadeSound tr st v → MadeSound tr st' v)) := by
  refine pt_induct tr ?surf ?compl ?cref ?node ?nil ?cons ?hit ?miss
  case surf =>
    refine fun n sub st => ⟨PTStep.addSurf, fun _ v ha hs => ⟨hs, fun hz _ => ?_⟩⟩
    simp only [Geom.nonzero, bne_iff_ne, ne_eq] at hz
    exact litSurf_fresh v.σ v.σ' n sub (st.nextSurf + 1) (by omega) hz
      (ha.1 _ _ _ (List.mem_append_right _ (List.mem_singleton.mpr rfl)))
  case compl => exact fun c st => ⟨.refl st, fun _ v _ hs => ⟨hs, fun _ hf => by simp [Geom.complFree] at hf⟩⟩
  case cref =>
    refine fun c st k st' h3 => ⟨h3.1, fun hc => ?_⟩
    obtain ⟨⟨e, he, hec, het, hen⟩, hv⟩ := h3.2 hc
    refine fun v ha hs => ⟨hv v ha hs, fun _ _ => ?_⟩
    simp only [Geom.eval, ← hen, ← hec, ha.2 e he het]
  case node =>
    refine fun op args st args' st' h2 => ⟨h2.1, fun hc v ha hs => ⟨(h2.2 hc v ha hs).1, fun hz hf => ?_⟩⟩
    simp only [Geom.nonzero] at hz
    simp only [Geom.complFree] at hf
    obtain ⟨e1, e2⟩ := (h2.2 hc v ha hs).2 hz hf
    cases op <;> simp only [Geom.eval, e1, e2]
  case nil => exact fun st => ⟨.refl st, fun _ v _ hs => ⟨hs, fun _ _ => ⟨rfl, rfl⟩⟩⟩
  case cons =>
    refine fun g gs st g' st1 gs' st2 h1 h2 => ⟨h1.1.trans h2.1, fun hc v ha hs => ?_⟩
    obtain ⟨hs1, he1⟩ := h1.2 hc v (ha.back h2.1) hs
    obtain ⟨hs2, he2⟩ := h2.2 (h1.1.cache hc) v ha hs1
    refine ⟨hs2, fun hz hf => ?_⟩
    simp only [Geom.nonzeroList, Bool.and_eq_true] at hz
    simp only [Geom.complFreeList, Bool.and_eq_true] at hf
    obtain ⟨ea, eb⟩ := he2 hz.2 hf.2
    simp only [Geom.evalAll, Geom.evalAny, he1 hz.1 hf.1, ea, eb, and_self]
  case hit => exact fun c st k hmem => ⟨.refl st, fun hc => ⟨hc c tr k hmem, fun v _ hs => hs⟩⟩
  case miss =>
    intro uc c st t t' st1 hm h1
    have step := PTStep.addCell (uc := uc) (tr := tr) (t' := t') (h1.1.cells _ hm)
    refine ⟨h1.1.trans step, fun hc => ⟨⟨_, last_made, rfl, rfl, rfl⟩, fun v ha hs => ?_⟩⟩
    obtain ⟨hs1, hev⟩ := h1.2 hc v (ha.back step) hs
    exact MadeSound.addCell hs1 hev

end T4V
