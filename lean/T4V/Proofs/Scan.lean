/-!
# Scanning a list field by field: `takeWhile` / `dropWhile` on `a ++ g`

A scanner written as a straight line of `takeWhile p` / `dropWhile p` meets, on a text written field by field, a run
`a` of elements of its class followed by a rest `g` that does not begin with one (`Stop p g`).  Import-free.
-/
namespace T4V.Scan
variable {α : Type _} {p : α → Bool} {a g : List α}

def Stop (p : α → Bool) (g : List α) : Prop := ∀ c ∈ g.head?, p c = false

theorem Stop.nil : Stop p [] := by simp [Stop]

theorem Stop.cons {c : α} {r : List α} (h : p c = false) : Stop p (c :: r) := by simpa [Stop] using h

/-- the form the hypotheses of the card theorems take -/
theorem stop_iff : Stop p g ↔ ∀ c r, g = c :: r → p c = false := by
  cases g <;> simp [Stop]

theorem Stop.append (ha : ∀ x ∈ a, p x = false) (hg : Stop p g) : Stop p (a ++ g) := by
  cases a with
  | nil => exact hg
  | cons x xs => exact Stop.cons (ha x List.mem_cons_self)

theorem Stop.of_ne_nil (hne : a ≠ []) (ha : ∀ x ∈ a, p x = false) : Stop p (a ++ g) := by
  cases a with
  | nil => exact absurd rfl hne
  | cons x xs => exact Stop.cons (ha x List.mem_cons_self)

theorem scan (ha : ∀ x ∈ a, p x = true) (hg : Stop p g) :
    (a ++ g).takeWhile p = a ∧ (a ++ g).dropWhile p = g := by
  rw [List.takeWhile_append_of_pos ha, List.dropWhile_append_of_pos ha]
  cases g with
  | nil => simp
  | cons c r => simp [stop_iff.mp hg c r rfl]

theorem scan_nil (hg : Stop p g) : g.takeWhile p = [] ∧ g.dropWhile p = g :=
  scan (a := []) (fun _ h => nomatch h) hg

theorem dropWhile_isEmpty (t : List α) : (t.dropWhile p).isEmpty = t.all p := by
  induction t with
  | nil => rfl
  | cons x t ih => by_cases hx : p x = true <;> simp [hx, ih]

theorem ne_of_class {c d : α} (hc : p c = true) (hd : p d = false) : c ≠ d :=
  fun h => by rw [h, hd] at hc; cases hc

end T4V.Scan
