import T4V.Model.GeomComp
/-! # `constructGeomCompT4`: what is filed under each name (lemmas for property C09) -/
namespace T4V

/-- the argument of `lookup_set` (Bind) for an assignment that updates the entry found instead of overwriting it -/
theorem filedUnder_addTo (g : List (String × List Nat)) (name name' : String) (k : Nat) :
    filedUnder (addTo g name k) name' = if name' = name then filedUnder g name ++ [k] else filedUnder g name' := by
  unfold addTo
  split
  · -- the name is there: the update keeps every key, so the same entry is found, updated if its key is `name`
    rename_i hany
    have hkey : ((fun x : String × List Nat => x.1 == name') ∘
        fun x : String × List Nat => if (x.1 == name) = true then (x.1, x.2 ++ [k]) else x) = fun x => x.1 == name' := by
      funext x
      simp only [Function.comp]
      split <;> rfl
    unfold filedUnder
    rw [List.find?_map, hkey]
    cases hf : g.find? (·.1 == name') with
    | some x =>
      have hx : x.1 = name' := by simpa using List.find?_some hf
      by_cases hn : name' = name
      · subst hn
        simp [hx, hf]
      · simp [hn, hx]
    | none =>
      have : name' ≠ name := by
        rintro rfl
        obtain ⟨x, hx, hp⟩ := List.any_eq_true.mp hany
        exact List.find?_eq_none.mp hf x hx hp
      simp [this]
  · -- a new name: found in the old list if at all, else it is the new entry
    rename_i hany
    unfold filedUnder
    rw [List.find?_append]
    by_cases hn : name' = name
    · subst hn
      have : g.find? (·.1 == name') = none := by
        rw [List.find?_eq_none]
        intro x hx hp
        exact hany (List.any_eq_true.mpr ⟨x, hx, hp⟩)
      simp [this]
    · have : (name == name') = false := by simpa using fun h => hn h.symm
      simp only [hn, if_false, List.find?, this]
      cases g.find? (·.1 == name') <;> rfl

/-- the names under which a volume is filed: the composition name of its owner, when it is not fictive -/
def fileName (cells : Nat → Option GCell) (v : GVol) : Option String :=
  if v.fictive then none else (cells v.owner).map compName

theorem fileName_eq_some {cells : Nat → Option GCell} {v : GVol} {name : String} :
    fileName cells v = some name ↔ v.fictive = false ∧ (cells v.owner).map compName = some name := by
  unfold fileName
  cases v.fictive <;> simp

/-- The construction seen from one name, for any list built so far: it appends the numbers of the volumes filed under
that name, in order; and it succeeds only if every volume that is not fictive has its owner among the cells. -/
theorem geomCompFrom_spec (cells : Nat → Option GCell) :
    ∀ (vols : List GVol) (g gs : List (String × List Nat)), geomCompFrom cells vols g = some gs →
      (∀ v ∈ vols, v.fictive = false → ∃ c, cells v.owner = some c) ∧
      ∀ name, filedUnder gs name = filedUnder g name ++ (vols.filter fun v => fileName cells v == some name).map (·.id)
  | [], g, gs, h => by
    cases h
    simp
  | v :: vs, g, gs, h => by
    unfold geomCompFrom at h
    cases hf : v.fictive with
    | true =>
      rw [hf, if_pos rfl] at h
      obtain ⟨ho, hs⟩ := geomCompFrom_spec cells vs g gs h
      refine ⟨List.forall_mem_cons.mpr ⟨fun hnf => Bool.noConfusion (hf.symm.trans hnf), ho⟩, fun name => ?_⟩
      simp [hs name, fileName, hf]
    | false =>
      rw [hf, if_neg Bool.false_ne_true] at h
      cases hc : cells v.owner with
      | none => rw [hc] at h; cases h
      | some c =>
        rw [hc] at h
        obtain ⟨ho, hs⟩ := geomCompFrom_spec cells vs _ gs h
        refine ⟨List.forall_mem_cons.mpr ⟨fun _ => ⟨c, hc⟩, ho⟩, fun name => ?_⟩
        have hfn : fileName cells v = some (compName c) := fileName_eq_some.mpr ⟨hf, by rw [hc]; rfl⟩
        rw [hs name, filedUnder_addTo]
        by_cases hn : name = compName c
        · subst hn
          simp [hfn]
        · have : (some (compName c) == some name) = false := by simpa using fun h => hn h.symm
          simp [hfn, hn, this]

theorem compName_span (c : GCell) (hc : '_' ∉ c.mat.toList) :
    (compName c).toList.takeWhile (· != '_') = c.mat.toList ∧
    (compName c).toList.dropWhile (· != '_') = (match c.rho with | none => [] | some d => '_' :: d.toList) := by
  have hm : ∀ a ∈ c.mat.toList, (a != '_') = true := fun a ha => by
    simpa using fun e : a = '_' => hc (e ▸ ha)
  have : (compName c).toList = c.mat.toList ++ (match c.rho with | none => [] | some d => '_' :: d.toList) := by
    unfold compName
    cases c.rho <;> simp [String.toList_append]
  rw [this, List.takeWhile_append_of_pos hm, List.dropWhile_append_of_pos hm]
  cases c.rho <;> simp

end T4V
