import T4V.Text.GeomParse
import T4V.Proofs.Tree
import T4V.Proofs.Scan
import T4V.Proofs.Bind
/-!
# Parser round trip on canonical strings (property C11, text level)

Source expressions in the precedence-stratified form of the MCNP manual (union of intersections of operands); `chars`
renders them to the canonical spelling that `normalize` produces, `tree` is the tree MCNP's reading prescribes
(left-associative, `#( … )` = De Morgan inverse).  `parse_render`: the PEG parser returns exactly that tree.
`SU.eval`: MCNP's reading of a source expression; `SU.tree_sound`: the tree evaluates to it; `SU.cost_le`: the fuel
`parseGeom` gives is enough.
-/
namespace T4V

/-- a surface literal as spelled: optional sign character, digits, optional one-digit facet -/
structure Lit where
  sign : Option Bool          -- some true = '-', some false = '+', none = no sign
  ds : List Char
  facet : Option Char
deriving Repr

def Lit.chars (l : Lit) : List Char :=
  (match l.sign with | some true => ['-'] | some false => ['+'] | none => []) ++ l.ds ++
  (match l.facet with | some d => ['.', d] | none => [])

def Lit.geom (l : Lit) : Geom :=
  let n : Int := digitsVal l.ds
  .surf (if l.sign = some true then -n else n) (l.facet.map fun d => d.toNat - '0'.toNat)

def Lit.WF (l : Lit) : Prop :=
  l.ds ≠ [] ∧ (∀ c ∈ l.ds, c.isDigit = true) ∧ (∀ d, l.facet = some d → d.isDigit = true)

mutual
inductive SU | mk (first : SI) (rest : List SI)
inductive SI | mk (first : SO) (rest : List SO)
inductive SO
  | lit (l : Lit)
  | par (u : SU)
  | compl (u : SU)            -- `#( u )`
  | ccell (ds : List Char)    -- `#n`
end

mutual
def SU.chars : SU → List Char
  | .mk i is => i.chars ++ charsIs is
def charsIs : List SI → List Char
  | [] => []
  | i :: is => ':' :: i.chars ++ charsIs is
def SI.chars : SI → List Char
  | .mk o os => o.chars ++ charsOs os
def charsOs : List SO → List Char
  | [] => []
  | o :: os => '*' :: o.chars ++ charsOs os
def SO.chars : SO → List Char
  | .lit l => l.chars
  | .par u => '(' :: u.chars ++ [')']
  | .compl u => '_' :: '(' :: u.chars ++ [')']
  | .ccell ds => '^' :: '(' :: ds ++ [')']
end

/-- left-associated chain, as `pUnionLoop` / `pIsectLoop` build it -/
def foldUnion (acc : Geom) : List Geom → Geom
  | [] => acc
  | g :: gs => foldUnion (.node .union [acc, g]) gs
def foldInter (acc : Geom) : List Geom → Geom
  | [] => acc
  | g :: gs => foldInter (.node .inter [acc, g]) gs

mutual
/-- the tree MCNP's reading prescribes; `none` where the converter has no inverse (`#n` under `#(`) -/
def SU.tree : SU → Option Geom
  | .mk i is => do let a ← i.tree; let bs ← treesIs is; pure (foldUnion a bs)
def treesIs : List SI → Option (List Geom)
  | [] => some []
  | i :: is => do let a ← i.tree; let bs ← treesIs is; pure (a :: bs)
def SI.tree : SI → Option Geom
  | .mk o os => do let a ← o.tree; let bs ← treesOs os; pure (foldInter a bs)
def treesOs : List SO → Option (List Geom)
  | [] => some []
  | o :: os => do let a ← o.tree; let bs ← treesOs os; pure (a :: bs)
def SO.tree : SO → Option Geom
  | .lit l => some l.geom
  | .par u => u.tree
  | .compl u => do let a ← u.tree; a.inverse
  | .ccell ds => some (.compl (digitsVal ds))
end

mutual
def SU.WF : SU → Prop
  | .mk i is => i.WF ∧ wfIs is
def wfIs : List SI → Prop
  | [] => True
  | i :: is => i.WF ∧ wfIs is
def SI.WF : SI → Prop
  | .mk o os => o.WF ∧ wfOs os
def wfOs : List SO → Prop
  | [] => True
  | o :: os => o.WF ∧ wfOs os
def SO.WF : SO → Prop
  | .lit l => l.WF
  | .par u => u.WF
  | .compl u => u.WF
  | .ccell ds => ds ≠ [] ∧ ∀ c ∈ ds, c.isDigit = true
end

mutual
/-- the fuel `pUnion` needs: one unit per call of a parser function; an empty list costs 1 because the loop is entered
once more to see that no separator follows -/
def SU.cost : SU → Nat
  | .mk i is => 1 + i.cost + costIs is
def costIs : List SI → Nat
  | [] => 1
  | i :: is => 1 + i.cost + costIs is
def SI.cost : SI → Nat
  | .mk o os => 1 + o.cost + costOs os
def costOs : List SO → Nat
  | [] => 1
  | o :: os => 1 + o.cost + costOs os
def SO.cost : SO → Nat
  | .lit _ => 1
  | .par u => 1 + u.cost
  | .compl u => 1 + u.cost
  | .ccell _ => 1
end

/-- what may follow a complete phrase: end of text, `)`, `:` or `*` -/
def Sep : List Char → Prop
  | [] => True
  | c :: _ => c = ')' ∨ c = ':' ∨ c = '*'
def NoStar : List Char → Prop
  | c :: _ => c ≠ '*'
  | [] => True
def NoColon : List Char → Prop
  | c :: _ => c ≠ ':'
  | [] => True

theorem sep_not_digit {rest : List Char} (h : Sep rest) : Scan.Stop Char.isDigit rest := by
  cases rest with
  | nil => exact .nil
  | cons c r => rcases h with h | h | h <;> subst h <;> exact .cons (by decide)

theorem lexSurface_plus {c : Char} (hc : c.isDigit = true) (r : List Char) :
    lexSurface ('+' :: c :: r) = lexSurface (c :: r) := by
  have h1 : c ≠ '-' := Scan.ne_of_class hc (by decide)
  have h2 : c ≠ '+' := Scan.ne_of_class hc (by decide)
  -- the lemma set refutes the earlier `match` alternatives by the head character
  simp only [lexSurface, List.cons.injEq, h1, h2, false_and, imp_self, implies_true]

/-- sign and digits followed by a `tail` whose head is not a digit: what is left is the optional facet, the `match` on
`tail`.  `(generalizing := false)`: otherwise `ht` is pulled into the motive and the closing `rfl` against the `match`
of `lexSurface` fails. -/
theorem lexSurface_digits (sign : Option Bool) {ds tail : List Char} (hne : ds ≠ [])
    (hd : ∀ c ∈ ds, c.isDigit = true) (ht : Scan.Stop Char.isDigit tail) :
    lexSurface ((Lit.mk sign ds none).chars ++ tail) =
      match (generalizing := false) tail with
      | '.' :: d :: r3 =>
          if d.isDigit then some ((Lit.mk sign ds (some d)).geom, r3)
          else some ((Lit.mk sign ds none).geom, tail)
      | _ => some ((Lit.mk sign ds none).geom, tail) := by
  have hspan := Scan.scan hd ht
  have hemp : ds.isEmpty = false := by simpa using hne
  rcases sign with _ | _ | _
  · -- no sign: read like `+`
    obtain ⟨d0, ds', rfl⟩ := List.exists_cons_of_ne_nil hne
    rw [Lit.chars, List.append_nil, List.nil_append, List.cons_append,
      ← lexSurface_plus (hd d0 (by simp)), ← List.cons_append]
    simp only [lexSurface, hspan.1, hspan.2, hemp]
    rfl
  all_goals
    simp only [Lit.chars, lexSurface, List.append_nil, List.cons_append, List.nil_append, hspan.1, hspan.2, hemp]
    rfl

theorem sep_not_dot {rest : List Char} (h : Sep rest) (d : Char) (r : List Char) : rest ≠ '.' :: d :: r := by
  intro e
  subst e
  simp [Sep] at h

theorem lexSurface_lit (l : Lit) (hl : l.WF) (rest : List Char) (hs : Sep rest) :
    lexSurface (l.chars ++ rest) = some (l.geom, rest) := by
  obtain ⟨sign, ds, facet⟩ := l
  obtain ⟨hne, hdig, hfac⟩ := hl
  cases facet with
  | none =>
    rw [lexSurface_digits sign hne hdig (sep_not_digit hs)]
    split
    · exact absurd rfl (sep_not_dot hs _ _)
    · rfl
  | some fd =>
    have hch : (Lit.mk sign ds (some fd)).chars ++ rest = (Lit.mk sign ds none).chars ++ '.' :: fd :: rest := by
      simp [Lit.chars]
    rw [hch, lexSurface_digits sign hne hdig (.cons (by decide))]
    simp [hfac fd rfl]

/-- a literal starts with a sign or a digit, so with none of the characters that open the other
alternatives of `operand` -/
theorem Lit.chars_head (l : Lit) (hl : l.WF) (rest : List Char) :
    ∃ c r, l.chars ++ rest = c :: r ∧ c ≠ '_' ∧ c ≠ '(' ∧ c ≠ '^' := by
  obtain ⟨sign, ds, facet⟩ := l
  obtain ⟨d0, ds', rfl⟩ := List.exists_cons_of_ne_nil hl.1
  have h0 : d0.isDigit = true := hl.2.1 d0 (by simp)
  rcases sign with _ | _ | _
  · exact ⟨d0, _, rfl, Scan.ne_of_class h0 (by decide), Scan.ne_of_class h0 (by decide),
      Scan.ne_of_class h0 (by decide)⟩
  all_goals exact ⟨_, _, rfl, by decide, by decide, by decide⟩

theorem Lit.chars_pos (l : Lit) (hl : l.WF) : 1 ≤ l.chars.length := by
  obtain ⟨c, r, e, _⟩ := Lit.chars_head l hl []
  rw [List.append_nil] at e
  rw [e]
  exact Nat.le_add_left 1 _

theorem pOperand_lit (l : Lit) (hw : l.WF) (f : Nat) (rest : List Char) (hsep : Sep rest) :
    pOperand (f + 1) (l.chars ++ rest) = .ok (l.geom, rest) := by
  obtain ⟨c, r, hcr, h1, h2, h3⟩ := l.chars_head hw rest
  have hlex := lexSurface_lit l hw rest hsep
  rw [hcr] at hlex ⊢
  simp only [pOperand, List.cons.injEq, h1, h2, h3, false_and, imp_self, implies_true, hlex]

theorem pIsectLoop_stop (f : Nat) (acc : Geom) (rest : List Char) (h : NoStar rest) :
    pIsectLoop (f + 1) acc rest = .ok (acc, rest) := by
  cases rest with
  | nil => rfl
  | cons t ts =>
    have h : t ≠ '*' := h
    simp [pIsectLoop, h]

theorem pUnionLoop_stop (f : Nat) (acc : Geom) (rest : List Char) (h : NoColon rest) :
    pUnionLoop (f + 1) acc rest = .ok (acc, rest) := by
  cases rest with
  | nil => rfl
  | cons t ts =>
    have h : t ≠ ':' := h
    simp [pUnionLoop, h]

theorem sep_colon (r : List Char) : Sep (':' :: r) := by simp [Sep]
theorem sep_star (r : List Char) : Sep ('*' :: r) := by simp [Sep]
theorem sep_rp (r : List Char) : Sep (')' :: r) := by simp [Sep]
theorem noStar_rp (r : List Char) : NoStar (')' :: r) := by simp [NoStar]
theorem noColon_rp (r : List Char) : NoColon (')' :: r) := by simp [NoColon]

theorem sep_charsIs (is : List SI) (rest : List Char) (h : Sep rest) : Sep (charsIs is ++ rest) := by
  cases is with
  | nil => simpa [charsIs] using h
  | cons _ _ => simp [charsIs, Sep]

theorem sep_charsOs (os : List SO) (rest : List Char) (h : Sep rest) : Sep (charsOs os ++ rest) := by
  cases os with
  | nil => simpa [charsOs] using h
  | cons _ _ => simp [charsOs, Sep]

theorem noStar_charsIs (is : List SI) (rest : List Char) (h : NoStar rest) : NoStar (charsIs is ++ rest) := by
  cases is with
  | nil => simpa [charsIs] using h
  | cons _ _ => simp [charsIs, NoStar]

theorem fuel_succ {a b f : Nat} (h : 1 + a + b ≤ f) : ∃ k, f = k + 1 ∧ a ≤ k ∧ b ≤ k := by
  cases f with
  | zero => omega
  | succ k => exact ⟨k, rfl, by omega⟩

-- each level may be followed by what its own loop does not eat: an operand by any `Sep` (what `lexSurface` needs: no
-- digit, no facet), an intersection not by `*`, a union neither by `*` nor by `:`
mutual
theorem pUnion_ok : ∀ (u : SU) (g : Geom) (f : Nat) (rest : List Char), u.WF → u.tree = some g →
    u.cost ≤ f → Sep rest → NoStar rest → NoColon rest →
    pUnion f (u.chars ++ rest) = .ok (g, rest)
  | .mk i is, g, f, rest, hw, ht, hf, hsep, hs, hc => by
    obtain ⟨f, rfl, hfi, hfis⟩ := fuel_succ hf
    obtain ⟨a, bs, ha, hbs, rfl⟩ := bind₂_eq_some.mp ht
    have h1 := pIsect_ok i a f (charsIs is ++ rest) hw.1 ha hfi (sep_charsIs is rest hsep)
      (noStar_charsIs is rest hs)
    simp only [SU.chars, List.append_assoc, pUnion, h1, bind, Except.bind]
    exact pUnionLoop_ok is bs f a rest hw.2 hbs hfis hsep hs hc
theorem pUnionLoop_ok : ∀ (is : List SI) (bs : List Geom) (f : Nat) (acc : Geom) (rest : List Char),
    wfIs is → treesIs is = some bs → costIs is ≤ f → Sep rest → NoStar rest → NoColon rest →
    pUnionLoop f acc (charsIs is ++ rest) = .ok (foldUnion acc bs, rest)
  | [], bs, f, acc, rest, _, ht, hf, _, _, hc => by
    obtain ⟨f, rfl⟩ := Nat.exists_eq_add_of_le' (m := 1) hf
    cases ht
    exact pUnionLoop_stop f acc rest hc
  | i :: is, bs, f, acc, rest, hw, ht, hf, hsep, hs, hc => by
    obtain ⟨f, rfl, hfi, hfis⟩ := fuel_succ hf
    obtain ⟨a, bs', ha, hbs, rfl⟩ := bind₂_eq_some.mp ht
    have h1 := pIsect_ok i a f (charsIs is ++ rest) hw.1 ha hfi (sep_charsIs is rest hsep)
      (noStar_charsIs is rest hs)
    simp only [charsIs, List.cons_append, List.append_assoc, pUnionLoop, h1, foldUnion]
    exact pUnionLoop_ok is bs' f _ rest hw.2 hbs hfis hsep hs hc
theorem pIsect_ok : ∀ (i : SI) (g : Geom) (f : Nat) (rest : List Char), i.WF → i.tree = some g →
    i.cost ≤ f → Sep rest → NoStar rest →
    pIsect f (i.chars ++ rest) = .ok (g, rest)
  | .mk o os, g, f, rest, hw, ht, hf, hsep, hs => by
    obtain ⟨f, rfl, hfo, hfos⟩ := fuel_succ hf
    obtain ⟨a, bs, ha, hbs, rfl⟩ := bind₂_eq_some.mp ht
    have h1 := pOperand_ok o a f (charsOs os ++ rest) hw.1 ha hfo (sep_charsOs os rest hsep)
    simp only [SI.chars, List.append_assoc, pIsect, h1, bind, Except.bind]
    exact pIsectLoop_ok os bs f a rest hw.2 hbs hfos hsep hs
theorem pIsectLoop_ok : ∀ (os : List SO) (bs : List Geom) (f : Nat) (acc : Geom) (rest : List Char),
    wfOs os → treesOs os = some bs → costOs os ≤ f → Sep rest → NoStar rest →
    pIsectLoop f acc (charsOs os ++ rest) = .ok (foldInter acc bs, rest)
  | [], bs, f, acc, rest, _, ht, hf, _, hs => by
    obtain ⟨f, rfl⟩ := Nat.exists_eq_add_of_le' (m := 1) hf
    cases ht
    exact pIsectLoop_stop f acc rest hs
  | o :: os, bs, f, acc, rest, hw, ht, hf, hsep, hs => by
    obtain ⟨f, rfl, hfo, hfos⟩ := fuel_succ hf
    obtain ⟨a, bs', ha, hbs, rfl⟩ := bind₂_eq_some.mp ht
    have h1 := pOperand_ok o a f (charsOs os ++ rest) hw.1 ha hfo (sep_charsOs os rest hsep)
    simp only [charsOs, List.cons_append, List.append_assoc, pIsectLoop, h1, foldInter]
    exact pIsectLoop_ok os bs' f _ rest hw.2 hbs hfos hsep hs
theorem pOperand_ok : ∀ (o : SO) (g : Geom) (f : Nat) (rest : List Char), o.WF → o.tree = some g →
    o.cost ≤ f → Sep rest →
    pOperand f (o.chars ++ rest) = .ok (g, rest)
  | .lit l, g, f, rest, hw, ht, hf, hsep => by
    obtain ⟨f, rfl⟩ := Nat.exists_eq_add_of_le' (m := 1) hf
    cases ht
    exact pOperand_lit l hw f rest hsep
  | .par u, g, f, rest, hw, ht, hf, _ => by
    -- a unary node: `1 + u.cost` is `1 + u.cost + 0` by reduction
    obtain ⟨f, rfl, hfu, _⟩ := fuel_succ (b := 0) hf
    have h := pUnion_ok u g f (')' :: rest) hw ht hfu (sep_rp rest) (noStar_rp rest) (noColon_rp rest)
    simp only [SO.chars, List.cons_append, List.append_assoc, List.nil_append, pOperand, h]
  | .compl u, g, f, rest, hw, ht, hf, _ => by
    obtain ⟨f, rfl, hfu, _⟩ := fuel_succ (b := 0) hf
    obtain ⟨a, ha, hinv⟩ := Option.bind_eq_some_iff.mp ht
    have h := pUnion_ok u a f (')' :: rest) hw ha hfu (sep_rp rest) (noStar_rp rest) (noColon_rp rest)
    simp only [SO.chars, List.cons_append, List.append_assoc, List.nil_append, pOperand, h, hinv]
  | .ccell ds, g, f, rest, hw, ht, hf, _ => by
    obtain ⟨f, rfl⟩ := Nat.exists_eq_add_of_le' (m := 1) hf
    cases ht
    have hspan := Scan.scan (g := ')' :: rest) hw.2 (.cons (by decide))
    have hemp : ds.isEmpty = false := by simpa using hw.1
    simp only [SO.chars, List.cons_append, List.append_assoc, List.nil_append, pOperand, hspan.1, hspan.2, hemp]
    rfl
end

/-- **Round trip on canonical strings**: for every well-formed source expression whose complement
structure the converter supports, the parser consumes exactly the canonical spelling and returns the
tree MCNP's reading prescribes. -/
theorem parse_render (u : SU) (g : Geom) (hw : u.WF) (ht : u.tree = some g) (f : Nat) (hf : u.cost ≤ f) :
    pUnion f u.chars = .ok (g, []) := by
  simpa using pUnion_ok u g f [] hw ht hf (by simp [Sep]) (by simp [NoStar]) (by simp [NoColon])

/-! ### Meaning of the parsed tree -/

mutual
/-- MCNP's reading of a source expression: blank = intersection (binds tighter), `:` = union,
`#( … )` and `#n` = complements. -/
def SU.eval (σ : SurfVal) (cv : Nat → Bool) : SU → Bool
  | .mk i is => i.eval σ cv || evalIs σ cv is
def evalIs (σ : SurfVal) (cv : Nat → Bool) : List SI → Bool
  | [] => false
  | i :: is => i.eval σ cv || evalIs σ cv is
def SI.eval (σ : SurfVal) (cv : Nat → Bool) : SI → Bool
  | .mk o os => o.eval σ cv && evalOs σ cv os
def evalOs (σ : SurfVal) (cv : Nat → Bool) : List SO → Bool
  | [] => true
  | o :: os => o.eval σ cv && evalOs σ cv os
def SO.eval (σ : SurfVal) (cv : Nat → Bool) : SO → Bool
  | .lit l => l.geom.eval σ cv
  | .par u => u.eval σ cv
  | .compl u => !u.eval σ cv
  | .ccell ds => !cv (digitsVal ds)
end

mutual
/-- no literal is surface 0: the sense of a literal is read off `n > 0`, and `-0 = 0` is not flipped by `inverse` -/
def SU.NZ : SU → Prop
  | .mk i is => i.NZ ∧ nzIs is
def nzIs : List SI → Prop
  | [] => True
  | i :: is => i.NZ ∧ nzIs is
def SI.NZ : SI → Prop
  | .mk o os => o.NZ ∧ nzOs os
def nzOs : List SO → Prop
  | [] => True
  | o :: os => o.NZ ∧ nzOs os
def SO.NZ : SO → Prop
  | .lit l => digitsVal l.ds ≠ 0
  | .par u => u.NZ
  | .compl u => u.NZ
  | .ccell _ => True
end

theorem foldUnion_eval (σ : SurfVal) (cv : Nat → Bool) : ∀ (bs : List Geom) (acc : Geom),
    (foldUnion acc bs).eval σ cv = (acc.eval σ cv || Geom.evalAny σ cv bs)
  | [], acc => by simp [foldUnion, Geom.evalAny]
  | b :: bs, acc => by
      rw [foldUnion, foldUnion_eval σ cv bs]
      simp [Geom.eval, Geom.evalAny, Bool.or_assoc]

theorem foldInter_eval (σ : SurfVal) (cv : Nat → Bool) : ∀ (bs : List Geom) (acc : Geom),
    (foldInter acc bs).eval σ cv = (acc.eval σ cv && Geom.evalAll σ cv bs)
  | [], acc => by simp [foldInter, Geom.evalAll]
  | b :: bs, acc => by
      rw [foldInter, foldInter_eval σ cv bs]
      simp [Geom.eval, Geom.evalAll, Bool.and_assoc]

theorem foldUnion_nonzero : ∀ (bs : List Geom) (acc : Geom), acc.nonzero = true →
    Geom.nonzeroList bs = true → (foldUnion acc bs).nonzero = true
  | [], acc, h, _ => by simpa [foldUnion] using h
  | b :: bs, acc, h, hb => by
      simp only [Geom.nonzeroList, Bool.and_eq_true] at hb
      rw [foldUnion]
      exact foldUnion_nonzero bs _ (by simp [Geom.nonzero, Geom.nonzeroList, h, hb.1]) hb.2

theorem foldInter_nonzero : ∀ (bs : List Geom) (acc : Geom), acc.nonzero = true →
    Geom.nonzeroList bs = true → (foldInter acc bs).nonzero = true
  | [], acc, h, _ => by simpa [foldInter] using h
  | b :: bs, acc, h, hb => by
      simp only [Geom.nonzeroList, Bool.and_eq_true] at hb
      rw [foldInter]
      exact foldInter_nonzero bs _ (by simp [Geom.nonzero, Geom.nonzeroList, h, hb.1]) hb.2

mutual
theorem SU.tree_sound (σ : SurfVal) (cv : Nat → Bool) : ∀ (u : SU) (g : Geom), u.NZ → u.tree = some g →
    g.nonzero = true ∧ g.eval σ cv = u.eval σ cv
  | .mk i is, g, hz, ht => by
    obtain ⟨a, bs, ha, hbs, rfl⟩ := bind₂_eq_some.mp ht
    have h1 := SI.tree_sound σ cv i a hz.1 ha
    have h2 := treesIs_sound σ cv is bs hz.2 hbs
    exact ⟨foldUnion_nonzero bs a h1.1 h2.1, by simp [foldUnion_eval, SU.eval, h1.2, h2.2]⟩
theorem treesIs_sound (σ : SurfVal) (cv : Nat → Bool) : ∀ (is : List SI) (bs : List Geom), nzIs is →
    treesIs is = some bs → Geom.nonzeroList bs = true ∧ Geom.evalAny σ cv bs = evalIs σ cv is
  | [], bs, _, ht => by
    cases ht
    simp [Geom.nonzeroList, Geom.evalAny, evalIs]
  | i :: is, bs, hz, ht => by
    obtain ⟨a, bs', ha, hbs, rfl⟩ := bind₂_eq_some.mp ht
    have h1 := SI.tree_sound σ cv i a hz.1 ha
    have h2 := treesIs_sound σ cv is bs' hz.2 hbs
    simp [Geom.nonzeroList, Geom.evalAny, evalIs, h1.1, h1.2, h2.1, h2.2]
theorem SI.tree_sound (σ : SurfVal) (cv : Nat → Bool) : ∀ (i : SI) (g : Geom), i.NZ → i.tree = some g →
    g.nonzero = true ∧ g.eval σ cv = i.eval σ cv
  | .mk o os, g, hz, ht => by
    obtain ⟨a, bs, ha, hbs, rfl⟩ := bind₂_eq_some.mp ht
    have h1 := SO.tree_sound σ cv o a hz.1 ha
    have h2 := treesOs_sound σ cv os bs hz.2 hbs
    exact ⟨foldInter_nonzero bs a h1.1 h2.1, by simp [foldInter_eval, SI.eval, h1.2, h2.2]⟩
theorem treesOs_sound (σ : SurfVal) (cv : Nat → Bool) : ∀ (os : List SO) (bs : List Geom), nzOs os →
    treesOs os = some bs → Geom.nonzeroList bs = true ∧ Geom.evalAll σ cv bs = evalOs σ cv os
  | [], bs, _, ht => by
    cases ht
    simp [Geom.nonzeroList, Geom.evalAll, evalOs]
  | o :: os, bs, hz, ht => by
    obtain ⟨a, bs', ha, hbs, rfl⟩ := bind₂_eq_some.mp ht
    have h1 := SO.tree_sound σ cv o a hz.1 ha
    have h2 := treesOs_sound σ cv os bs' hz.2 hbs
    simp [Geom.nonzeroList, Geom.evalAll, evalOs, h1.1, h1.2, h2.1, h2.2]
theorem SO.tree_sound (σ : SurfVal) (cv : Nat → Bool) : ∀ (o : SO) (g : Geom), o.NZ → o.tree = some g →
    g.nonzero = true ∧ g.eval σ cv = o.eval σ cv
  | .lit l, g, hz, ht => by
    cases ht
    refine ⟨?_, by simp [SO.eval]⟩
    simp only [SO.NZ] at hz
    simp only [Lit.geom, Geom.nonzero, bne_iff_ne, ne_eq]
    split <;> omega
  | .par u, g, hz, ht => by
    simpa [SO.eval] using SU.tree_sound σ cv u g hz ht
  | .compl u, g, hz, ht => by
    obtain ⟨a, ha, hinv⟩ := Option.bind_eq_some_iff.mp ht
    have h := SU.tree_sound σ cv u a hz ha
    exact ⟨(inverse_spec a g hinv).nonzero h.1, by simp [SO.eval, inverse_eval σ cv a g h.1 hinv, h.2]⟩
  | .ccell ds, g, _, ht => by
    cases ht
    simp [Geom.nonzero, Geom.eval, SO.eval]
end

/-! ### The fuel `parseGeom` gives the PEG parser is enough

`cost` is at most three times the length of the canonical spelling plus two; `parseGeom` gives one more.  The slack
differs by level (`SU` +2, `costIs` +1, `SI` +0, `costOs` +1, `SO`: `cost + 2 ≤ 3·len`): every operand is at least
one character long and pays in advance the 2 for the two list ends above it. -/

mutual
theorem SU.cost_le : ∀ (u : SU), u.WF → u.cost ≤ 3 * u.chars.length + 2
  | .mk i is, hw => by
    have h1 := SI.cost_le i hw.1
    have h2 := costIs_le is hw.2
    simp only [SU.cost, SU.chars, List.length_append]
    omega
theorem costIs_le : ∀ (is : List SI), wfIs is → costIs is ≤ 3 * (charsIs is).length + 1
  | [], _ => by simp [costIs, charsIs]
  | i :: is, hw => by
    have h1 := SI.cost_le i hw.1
    have h2 := costIs_le is hw.2
    simp only [costIs, charsIs, List.length_cons, List.length_append]
    omega
theorem SI.cost_le : ∀ (i : SI), i.WF → i.cost ≤ 3 * i.chars.length
  | .mk o os, hw => by
    have h1 := SO.cost_le o hw.1
    have h2 := costOs_le os hw.2
    simp only [SI.cost, SI.chars, List.length_append]
    omega
theorem costOs_le : ∀ (os : List SO), wfOs os → costOs os ≤ 3 * (charsOs os).length + 1
  | [], _ => by simp [costOs, charsOs]
  | o :: os, hw => by
    have h1 := SO.cost_le o hw.1
    have h2 := costOs_le os hw.2
    simp only [costOs, charsOs, List.length_cons, List.length_append]
    omega
theorem SO.cost_le : ∀ (o : SO), o.WF → o.cost + 2 ≤ 3 * o.chars.length
  | .lit l, hw => by
    have := Lit.chars_pos l hw
    simp only [SO.cost, SO.chars]
    omega
  | .par u, hw | .compl u, hw => by
    have h := SU.cost_le u hw
    simp only [SO.cost, SO.chars, List.length_cons, List.length_append, List.length_nil]
    omega
  | .ccell ds, _ => by
    simp only [SO.cost, SO.chars, List.length_cons, List.length_append, List.length_nil]
    omega
end

end T4V
