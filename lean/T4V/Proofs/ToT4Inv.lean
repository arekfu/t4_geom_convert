import T4V.Proofs.Optimise
/-!
# What `pot_to_t4_cell`, `convert_cellref` and `pot_convert` keep true, and the rules for it

Facts about the arguments of a node, the semantic invariant, and the bookkeeping of fresh ids with the one step that
writes (`StOK.store`).  `Proofs/ToT4.lean` puts them together.
-/
namespace T4V

/-! ## The arguments of a node -/

theorem all_eraseDups {α} [BEq α] [LawfulBEq α] (p : α → Bool) (l : List α) :
    l.eraseDups.all p = l.all p := by
  rw [Bool.eq_iff_iff]
  simp only [List.all_eq_true, List.mem_eraseDups]

theorem equa_convEqua (σ : TSense) (ss : List Int) (hz : ∀ s ∈ ss, s ≠ 0) (ops : Option (Op × List Nat))
    (o : List (Nat × Nat)) (f : Bool) :
    equa σ { pluses := (convEqua ss).1, minuses := (convEqua ss).2, ops := ops, origin := o, fictive := f }
      = ss.all (litT σ) := by
  unfold equa convEqua
  -- both parts are tests on each literal kept; a non-zero literal passes the two iff it is true
  simp only [List.all_filterMap, all_and]
  rw [← all_eraseDups (litT σ) ss]
  refine all_congr_mem fun s hs => ?_
  have := hz s (List.mem_eraseDups.mp hs)
  unfold litT
  by_cases hp : s > 0
  · have hn : ¬ s < 0 := by omega
    simp [hp, hn]
  · have hn : s < 0 := by omega
    simp [hp, hn]

theorem lits_nonzero (args : List FTree) (hx : FTree.expandedList args = true) :
    ∀ s ∈ args.filterMap litOf, s ≠ 0 := by
  intro s hs
  obtain ⟨t, ht, hl⟩ := List.mem_filterMap.mp hs
  have := List.all_eq_true.mp (FTree.expandedList_eq args ▸ hx) t ht
  cases t with
  | lit a => cases hl; simpa [FTree.expanded] using this
  | _ => cases hl

def FTree.isPureMain : FTree → Bool
  | .lit _ => true
  | .node _ .inter a => a.all FTree.isSurface
  | _ => false

/-- the loop of `largestPureIntersectionNode` returns the candidate it was given or the position of a later element
that is a bare surface or a pure-surface intersection -/
theorem largestPure_go_spec : ∀ (ts : List FTree) (off len : Nat) (best : Option Nat) (r : Nat),
    FTree.expandedList ts = true → largestPure.go ts off len best = some r →
    best = some r ∨ ∃ j t, ts[j]? = some t ∧ r = off + j ∧ t.isPureMain = true
  | [], _, _, _, _, _, h => Or.inl h
  | t :: ts, off, len, best, r, hx, h => by
      simp only [FTree.expandedList, Bool.and_eq_true] at hx
      -- whatever the loop does with the head, the tail is searched from `off + 1`
      have tail : ∀ len' best', largestPure.go ts (off + 1) len' best' = some r →
          (best' = best ∨ best' = some off ∧ t.isPureMain = true) →
          best = some r ∨ ∃ j t', (t :: ts)[j]? = some t' ∧ r = off + j ∧ t'.isPureMain = true := by
        intro len' best' h' hb
        rcases largestPure_go_spec ts (off + 1) len' best' r hx.2 h' with e | ⟨j, t', hj, rfl, hp⟩
        · rcases hb with rfl | ⟨rfl, hp⟩
          · exact Or.inl e
          · cases e; exact Or.inr ⟨0, t, rfl, rfl, hp⟩
        · exact Or.inr ⟨j + 1, t', by simpa using hj, by omega, hp⟩
      cases t with
      | msurf n sub => simp [FTree.expanded] at hx
      | lit s =>
        simp only [largestPure.go] at h
        split at h
        · exact tail _ _ h (Or.inr ⟨rfl, rfl⟩)
        · exact tail _ _ h (Or.inl rfl)
      | cref c => exact tail _ _ (by simpa only [largestPure.go] using h) (Or.inl rfl)
      | node id op a =>
        cases op with
        | union => exact tail _ _ (by simpa only [largestPure.go] using h) (Or.inl rfl)
        | inter =>
          simp only [largestPure.go] at h
          split at h
          next hc =>
            simp only [Bool.and_eq_true, decide_eq_true_eq] at hc
            exact tail _ _ h (Or.inr ⟨rfl, by simpa [FTree.isPureMain] using hc.1⟩)
          · exact tail _ _ h (Or.inl rfl)

/-- the element selected by `largestPureIntersectionNode` is a bare surface or a pure-surface
intersection -/
theorem largestPure_spec (args : List FTree) (hx : FTree.expandedList args = true) (i : Nat)
    (h : largestPure args = some i) : ∃ t, args[i]? = some t ∧ t.isPureMain = true := by
  rcases largestPure_go_spec args 0 0 none i hx h with e | ⟨j, t, hj, rfl, hp⟩
  · cases e
  · exact ⟨t, by simpa using hj, hp⟩

theorem idsList_filter_noids (p : FTree → Bool) (ts : List FTree)
    (h : ∀ t ∈ ts, p t = false → t.ids = []) : FTree.idsList (ts.filter p) = FTree.idsList ts := by
  simp only [FTree.idsList_eq]
  induction ts with
  | nil => rfl
  | cons t ts ih =>
    have ih := ih fun x hx => h x (List.mem_cons_of_mem _ hx)
    cases hp : p t <;> simp [List.filter, hp, ih, h t List.mem_cons_self]

theorem all_filter_of_all {α} {q : α → Bool} (p : α → Bool) {l : List α} (h : l.all q = true) :
    (l.filter p).all q = true := by
  rw [List.all_eq_true] at *
  exact fun a ha => h a (List.mem_filter.mp ha).1

theorem noBothList_filter (p : FTree → Bool) : ∀ ts : List FTree, FTree.noBothList ts = true →
    FTree.noBothList (ts.filter p) = true := by
  intro ts h
  rw [FTree.noBothList_eq] at *; exact all_filter_of_all p h

theorem eraseIdx_split {α} : ∀ (l : List α) (i : Nat) (a : α), l[i]? = some a →
    ∃ pre post, l = pre ++ a :: post ∧ l.eraseIdx i = pre ++ post
  | [], i, a, h => by simp at h
  | x :: xs, 0, a, h => by
      simp at h; subst h
      exact ⟨[], xs, by simp, by simp⟩
  | x :: xs, i + 1, a, h => by
      obtain ⟨pre, post, h1, h2⟩ := eraseIdx_split xs i a (by simpa using h)
      exact ⟨x :: pre, post, by simp [h1], by simp [h2]⟩

/-! ## The invariant of the conversion -/

structure EnvOK (env : CEnv) (σ : TSense) (cv : Nat → Bool) : Prop where
  matchOK : MatchOK env.matching
  /-- referenced cells are complement-free (after `pot_complement`), mention no surface 0, and `cv`
  is the region they denote (a fixed point of the reference structure) -/
  cells : ∀ c cell, env.cell? c = some cell →
    cell.geom.complFree = true ∧ cell.geom.nonzero = true ∧
    cv c = cell.geom.eval (surfValOf env.matching σ) cv
  /-- the two auxiliary planes `PLANEX 1` / `PLANEX -1`: no point is on the PLUS side of the first
  and on the MINUS side of the second -/
  helper : env.unionIds.1 ≠ 0 ∧ env.unionIds.2 ≠ 0 ∧ ¬ (σ env.unionIds.1 = true ∧ σ env.unionIds.2 = false)

/-- the state is sound: keys lie at most at the counter, and both caches point at volumes that denote what they stand
for -/
structure StOK (σ : TSense) (cv : Nat → Bool) (st : CState) : Prop where
  below : ∀ k, hasKey st.vols k → k ≤ st.next
  surf : ∀ s id, (s, id) ∈ st.surfCache →
    s ≠ 0 ∧ ∃ v, dictGet? st.vols id = some v ∧ v.ops = none ∧ equa σ v = litT σ s
  cell : ∀ c id, (c, id) ∈ st.cellCache → Denotes st.vols σ id (cv c)

/-- what a conversion may do to the state: the counter and the bindings only grow, and a new key is an id of the tree
under conversion (`ids`) or lies above the old counter -/
structure Step (σ : TSense) (ids : List Nat) (st st' : CState) : Prop where
  le : st.next ≤ st'.next
  pres : ∀ k b, Denotes st.vols σ k b → Denotes st'.vols σ k b
  get : ∀ k v, dictGet? st.vols k = some v → dictGet? st'.vols k = some v
  keys : ∀ k, hasKey st'.vols k → hasKey st.vols k ∨ k ∈ ids ∨ st.next < k

theorem Step.refl (σ : TSense) (ids : List Nat) (st : CState) : Step σ ids st st :=
  ⟨Nat.le_refl _, fun _ _ h => h, fun _ _ h => h, fun _ h => Or.inl h⟩

theorem Step.trans {σ ids1 ids2 st st1 st2} (h1 : Step σ ids1 st st1) (h2 : Step σ ids2 st1 st2) :
    Step σ (ids1 ++ ids2) st st2 := by
  refine ⟨Nat.le_trans h1.le h2.le, fun k b h => h2.pres k b (h1.pres k b h),
    fun k v h => h2.get k v (h1.get k v h), ?_⟩
  intro k hk
  rcases h2.keys k hk with h | h | h
  · rcases h1.keys k h with h' | h' | h'
    · exact Or.inl h'
    · exact Or.inr (Or.inl (List.mem_append_left _ h'))
    · exact Or.inr (Or.inr h')
  · exact Or.inr (Or.inl (List.mem_append_right _ h))
  · exact Or.inr (Or.inr (Nat.lt_of_le_of_lt h1.le h))

theorem Step.mono {σ ids ids' st st'} (h : Step σ ids st st') (hs : ∀ i ∈ ids, i ∈ ids') :
    Step σ ids' st st' :=
  ⟨h.le, h.pres, h.get, fun k hk => (h.keys k hk).imp_right (Or.imp_left (hs k))⟩

theorem Step.fresh {σ ids st st' k} (h : Step σ ids st st') (hk : k ≤ st.next ∧ ¬ hasKey st.vols k)
    (hi : k ∉ ids) : ¬ hasKey st'.vols k := fun hk' => by
  rcases h.keys k hk' with h' | h' | h'
  · exact hk.2 h'
  · exact hi h'
  · omega

/-- result of converting something whose Boolean value is `b` -/
def ResOK (σ : TSense) (vols : List (Nat × Vol)) (b : Bool) (r : Option Nat) : Prop :=
  match r with
  | some id => Denotes vols σ id b
  | none => b = false

/-- `Forall₂ ResOK`, written out (no list library is imported): the two lists have equal length -/
def ResVals (σ : TSense) (vols : List (Nat × Vol)) : List Bool → List (Option Nat) → Prop
  | [], [] => True
  | b :: bs, r :: rs => ResOK σ vols b r ∧ ResVals σ vols bs rs
  | _, _ => False

theorem ResVals.lift {σ vols vols'} (pres : ∀ k b, Denotes vols σ k b → Denotes vols' σ k b) :
    ∀ bs rs, ResVals σ vols bs rs → ResVals σ vols' bs rs
  | [], [], _ => trivial
  | [], _ :: _, h => by simp [ResVals] at h
  | _ :: _, [], h => by simp [ResVals] at h
  | b :: bs, r :: rs, h => by
      refine ⟨?_, ResVals.lift pres bs rs h.2⟩
      cases r with
      | none => exact h.1
      | some id => exact pres id b h.1

theorem ResVals.append {σ vols} : ∀ bs rs bs' rs', ResVals σ vols bs rs → ResVals σ vols bs' rs' →
    ResVals σ vols (bs ++ bs') (rs ++ rs')
  | [], [], _, _, _, h' => by simpa using h'
  | [], _ :: _, _, _, h, _ => by simp [ResVals] at h
  | _ :: _, [], _, _, h, _ => by simp [ResVals] at h
  | b :: bs, r :: rs, bs', rs', h, h' => ⟨h.1, ResVals.append bs rs bs' rs' h.2 h'⟩

/-- union reading: the kept ids denote values whose disjunction is the disjunction of all values -/
theorem ResVals.any {σ vols} : ∀ bs rs, ResVals σ vols bs rs →
    ∃ cs, DenotesL vols σ (rs.filterMap id) cs ∧ cs.any id = bs.any id
  | [], [], _ => ⟨[], DenotesL.nil, rfl⟩
  | [], _ :: _, h => by simp [ResVals] at h
  | _ :: _, [], h => by simp [ResVals] at h
  | b :: bs, r :: rs, h => by
      obtain ⟨cs, hd, he⟩ := ResVals.any bs rs h.2
      cases r with
      | none =>
        have hb : b = false := h.1
        exact ⟨cs, by simpa using hd, by simp [hb, he]⟩
      | some k =>
        have hk : Denotes vols σ k b := h.1
        exact ⟨b :: cs, by simpa using DenotesL.cons hk hd, by simp [he]⟩

/-- intersection reading: a `None` makes the conjunction false; otherwise the ids denote the values one by one -/
theorem ResVals.all {σ vols} : ∀ bs rs, ResVals σ vols bs rs →
    (rs.any Option.isNone = true → bs.all id = false) ∧
    (rs.any Option.isNone = false → DenotesL vols σ (rs.filterMap id) bs)
  | [], [], _ => ⟨by simp, fun _ => DenotesL.nil⟩
  | [], _ :: _, h => by simp [ResVals] at h
  | _ :: _, [], h => by simp [ResVals] at h
  | b :: bs, r :: rs, h => by
      obtain ⟨h1, h2⟩ := ResVals.all bs rs h.2
      cases r with
      | none =>
        have hb : b = false := h.1
        exact ⟨fun _ => by simp [hb], fun hn => by simp at hn⟩
      | some k =>
        have hk : Denotes vols σ k b := h.1
        refine ⟨fun hn => ?_, fun hn => ?_⟩
        · have : rs.any Option.isNone = true := by simpa using hn
          simp [h1 this]
        · have : rs.any Option.isNone = false := by simpa using hn
          simpa using DenotesL.cons hk (h2 this)

/-! ## The value of a node over its arguments -/

/-- the arguments of an intersection sorted into literals, nodes and cell references, as `pot_to_t4_cell` does -/
theorem evalAll_split (m : Matching) (σ : TSense) (cv : Nat → Bool) (args : List FTree)
    (h : FTree.expandedList args = true) :
    FTree.evalAll m σ cv args =
      ((args.filterMap litOf).all (litT σ) && ((nodesOf args).map (FTree.eval m σ cv)).all id &&
        ((crefsOf args).map cv).all id) := by
  rw [FTree.expandedList_eq, List.all_eq_true] at h
  -- each part is a test on every argument; an expanded argument passes the three tests iff it is true
  simp only [FTree.evalAll_eq, nodesOf, crefsOf, List.all_map, List.all_filter, List.all_filterMap, all_and]
  refine all_congr_mem fun t ht => ?_
  cases t with
  | lit s => simp [FTree.eval, litOf, FTree.isSurface]
  | msurf n sub => simpa [FTree.expanded] using h _ ht
  | cref c => simp [FTree.eval, litOf, FTree.isSurface, FTree.isCref]
  | node id op a => simp [litOf, FTree.isSurface, FTree.isCref]

theorem evalAny_split (m : Matching) (σ : TSense) (cv : Nat → Bool) (args : List FTree) :
    FTree.evalAny m σ cv args =
      (((nonCrefs args).map (FTree.eval m σ cv)).any id || ((crefsOf args).map cv).any id) := by
  simp only [FTree.evalAny_eq, nonCrefs, crefsOf, List.any_map, List.any_filter, List.any_filterMap, any_or]
  refine List.any_congr rfl fun t => ?_
  cases t with
  | cref c => simp [FTree.eval, FTree.isCref]
  | _ => simp [FTree.isCref]

/-- the cell references among the arguments are disjuncts already -/
theorem evalAny_or_crefs (m : Matching) (σ : TSense) (cv : Nat → Bool) (args : List FTree) :
    (FTree.evalAny m σ cv args || ((crefsOf args).map cv).any id) = FTree.evalAny m σ cv args := by
  rw [evalAny_split, Bool.or_assoc, Bool.or_self]

/-- a pure main part has no operand at all -/
theorem pureMain_results {σ : TSense} {vols : List (Nat × Vol)} {f : FTree → Bool} {g : Nat → Bool}
    {args : List FTree} {rs : List (Option Nat)} (hp : args.all FTree.isSurface = true)
    (h : ResVals σ vols ((nodesOf args).map f ++ (crefsOf args).map g) rs) :
    (nodesOf args).map f ++ (crefsOf args).map g = [] ∧ rs = [] := by
  rw [List.all_eq_true] at hp
  have e1 : nodesOf args = [] := List.filter_eq_nil_iff.mpr fun t ht => by simp [hp t ht]
  have e2 : crefsOf args = [] := List.filterMap_eq_nil_iff.mpr fun t ht => by
    have := hp t ht
    cases t with
    | lit _ => rfl
    | msurf _ _ => rfl
    | cref _ => cases this
    | node _ _ _ => cases this
  rw [e1, e2] at h ⊢
  cases rs with
  | nil => exact ⟨rfl, rfl⟩
  | cons _ _ => simp [ResVals] at h

/-! ## Fresh ids, outcomes and the step that writes -/

/-- the tree can be converted in this state: expanded, ids pairwise different, and `fresh`: every id is at most the
counter and not yet a key (`ListOK`: the same for an argument list) -/
structure TreeOK (t : FTree) (st : CState) : Prop where
  expanded : t.expanded = true
  nodup : t.ids.Nodup
  fresh : ∀ i ∈ t.ids, i ≤ st.next ∧ ¬ hasKey st.vols i

structure ListOK (ts : List FTree) (st : CState) : Prop where
  expanded : FTree.expandedList ts = true
  nodup : (FTree.idsList ts).Nodup
  fresh : ∀ i ∈ FTree.idsList ts, i ≤ st.next ∧ ¬ hasKey st.vols i

theorem ListOK.step {σ ids st st'} {ts : List FTree} (h : ListOK ts st) (hs : Step σ ids st st')
    (hd : ∀ i ∈ FTree.idsList ts, i ∉ ids) : ListOK ts st' :=
  ⟨h.expanded, h.nodup, fun i hi =>
    ⟨Nat.le_trans (h.fresh i hi).1 hs.le, hs.fresh (h.fresh i hi) (hd i hi)⟩⟩

theorem ListOK.filter {ts : List FTree} {st : CState} (h : ListOK ts st) (p : FTree → Bool)
    (hp : ∀ t ∈ ts, p t = false → t.ids = []) :
    ListOK (ts.filter p) st ∧ FTree.idsList (ts.filter p) = FTree.idsList ts :=
  have e := idsList_filter_noids p ts hp
  have hx : FTree.expandedList (ts.filter p) = true := by
    rw [FTree.expandedList_eq]
    exact all_filter_of_all p (FTree.expandedList_eq ts ▸ h.expanded)
  ⟨⟨hx, e ▸ h.nodup, e ▸ h.fresh⟩, e⟩

theorem TreeOK.node {pid : Nat} {op : Op} {args : List FTree} {st : CState} (h : TreeOK (.node pid op args) st) :
    (pid ≤ st.next ∧ ¬ hasKey st.vols pid) ∧ pid ∉ FTree.idsList args ∧ ListOK args st := by
  have hnd : pid ∉ FTree.idsList args ∧ (FTree.idsList args).Nodup := by simpa [FTree.ids] using h.nodup
  exact ⟨h.fresh pid (by simp [FTree.ids]), hnd.1, by simpa [FTree.expanded] using h.expanded, hnd.2,
    fun i hi => h.fresh i (by simp [FTree.ids, hi])⟩

theorem ListOK.split {pre post : List FTree} {t : FTree} {st : CState} (h : ListOK (pre ++ t :: post) st) :
    TreeOK t st ∧ ListOK (pre ++ post) st ∧ ∀ i ∈ FTree.idsList (pre ++ post), i ∉ t.ids := by
  obtain ⟨hx, hn, hf⟩ := h
  simp only [FTree.expandedList_eq, List.all_append, List.all_cons, Bool.and_eq_true] at hx
  simp only [FTree.idsList_eq, List.flatMap_append, List.flatMap_cons] at hn hf ⊢
  obtain ⟨n1, n23, d1⟩ := List.nodup_append.mp hn
  obtain ⟨n2, n3, d2⟩ := List.nodup_append.mp n23
  refine ⟨⟨hx.2.1, n2, fun i hi => hf i (by simp [hi])⟩,
    ⟨by simp [FTree.expandedList_eq, hx.1, hx.2.2], ?_, fun i hi => hf i ?_⟩, fun i hi hm => ?_⟩
  · rw [FTree.idsList_eq, List.flatMap_append]
    exact List.nodup_append.mpr ⟨n1, n3, fun a ha b hb => d1 a ha b (List.mem_append_right _ hb)⟩
  · rw [FTree.idsList_eq, List.flatMap_append] at hi
    rcases List.mem_append.mp hi with hi | hi <;> simp [hi]
  · rcases List.mem_append.mp hi with hi | hi
    · exact d1 i hi i (List.mem_append_left _ hm) rfl
    · exact d2 i hm i hi rfl

theorem mem_idsList_split {pre post : List FTree} {t : FTree} {i : Nat}
    (h : i ∈ t.ids ++ FTree.idsList (pre ++ post)) : i ∈ FTree.idsList (pre ++ t :: post) := by
  simp only [FTree.idsList_eq, List.flatMap_append, List.flatMap_cons, List.mem_append] at h ⊢
  rcases h with h | h | h
  · exact Or.inr (Or.inl h)
  · exact Or.inl h
  · exact Or.inr (Or.inr h)

/-- a volume whose EQUA part alone denotes `b` -/
def PlainVol (σ : TSense) (vols : List (Nat × Vol)) (id : Nat) (b : Bool) : Prop :=
  ∃ v, dictGet? vols id = some v ∧ v.ops = none ∧ equa σ v = b

theorem PlainVol.denotes {σ vols id b} (h : PlainVol σ vols id b) : Denotes vols σ id b := by
  obtain ⟨v, hg, ho, he⟩ := h
  exact ⟨1, by simp [den, hg, ho, he]⟩

/-- storing a volume under a free key `k`, the counter moving to some `n ≥ k`: the one way the dictionary grows -/
theorem StOK.store {σ : TSense} {cv : Nat → Bool} {st : CState} (h : StOK σ cv st) {k n : Nat} (v : Vol)
    (hk : ¬ hasKey st.vols k) (hn : st.next ≤ n) (hle : k ≤ n) :
    StOK σ cv { st with next := n, vols := dictSet st.vols k v } ∧
    Step σ [k] st { st with next := n, vols := dictSet st.vols k v } := by
  have get : ∀ k' v', dictGet? st.vols k' = some v' → dictGet? (dictSet st.vols k v) k' = some v' :=
    fun _ _ => dictGet?_dictSet_of_some v hk
  refine ⟨⟨fun k' hk' => ?_, fun s id hm =>
      let ⟨hz, v2, hg, r⟩ := h.surf s id hm
      ⟨hz, v2, get _ _ hg, r⟩,
    fun c id hm => (h.cell c id hm).mono_of get⟩, ⟨hn, fun _ _ hd => hd.mono_of get, get, fun k' hk' => ?_⟩⟩
  · rcases hasKey_dictSet.mp hk' with h' | rfl
    · exact Nat.le_trans (h.below k' h') hn
    · exact hle
  · rcases hasKey_dictSet.mp hk' with h' | rfl
    · exact Or.inl h'
    · exact Or.inr (Or.inl (List.mem_singleton.mpr rfl))

theorem Step.of_above {σ ids st st'} (h : Step σ ids st st') (ha : ∀ i ∈ ids, st.next < i) : Step σ [] st st' :=
  ⟨h.le, h.pres, h.get, fun k hk => (h.keys k hk).imp_right fun h' => Or.inr (h'.elim (ha k) id)⟩

/-- outcome of one conversion: a sound state reached by a `Step`, and a result that stands for the value `b` -/
structure Out (σ : TSense) (cv : Nat → Bool) (ids : List Nat) (st st' : CState) (b : Bool) (r : Option Nat) : Prop where
  ok : StOK σ cv st'
  step : Step σ ids st st'
  res : ResOK σ st'.vols b r

/-- outcome of converting a list of things whose values are `bs` -/
def OutL (σ : TSense) (cv : Nat → Bool) (ids : List Nat) (st st' : CState) (bs : List Bool)
    (rs : List (Option Nat)) : Prop :=
  StOK σ cv st' ∧ Step σ ids st st' ∧ ResVals σ st'.vols bs rs

theorem OutL.ok {σ cv ids st st' bs rs} (h : OutL σ cv ids st st' bs rs) : StOK σ cv st' := h.1
theorem OutL.step {σ cv ids st st' bs rs} (h : OutL σ cv ids st st' bs rs) : Step σ ids st st' := h.2.1
theorem OutL.res {σ cv ids st st' bs rs} (h : OutL σ cv ids st st' bs rs) : ResVals σ st'.vols bs rs := h.2.2

theorem OutL.nil {σ cv st} (hst : StOK σ cv st) (ids : List Nat) : OutL σ cv ids st st [] [] :=
  ⟨hst, Step.refl σ ids st, trivial⟩

theorem OutL.append {σ cv ids1 ids2 st st1 st2 bs1 rs1 bs2 rs2} (h1 : OutL σ cv ids1 st st1 bs1 rs1)
    (h2 : OutL σ cv ids2 st1 st2 bs2 rs2) : OutL σ cv (ids1 ++ ids2) st st2 (bs1 ++ bs2) (rs1 ++ rs2) :=
  ⟨h2.ok, h1.step.trans h2.step, ResVals.append _ _ _ _ (ResVals.lift h2.step.pres _ _ h1.res) h2.res⟩

theorem Out.cons {σ cv ids1 ids2 st st1 st2 b r bs rs} (o : Out σ cv ids1 st st1 b r)
    (h : OutL σ cv ids2 st1 st2 bs rs) : OutL σ cv (ids1 ++ ids2) st st2 (b :: bs) (r :: rs) :=
  OutL.append (bs1 := [b]) (rs1 := [r]) ⟨o.ok, o.step, o.res, trivial⟩ h

theorem Out.store {σ : TSense} {cv : Nat → Bool} {ids : List Nat} {st st2 : CState} {pid : Nat} {v : Vol} (op : Op)
    {ks : List Nat} {cs : List Bool} {b : Bool} (hst2 : StOK σ cv st2) (hs : Step σ ids st st2)
    (hpid : pid ≤ st.next ∧ ¬ hasKey st.vols pid) (hnot : pid ∉ ids)
    (hops : v.ops = if ks.isEmpty then none else some (op, ks)) (hd : DenotesL st2.vols σ ks cs)
    (hb : b = combine op (equa σ v) cs) :
    Out σ cv (pid :: ids) st { st2 with vols := dictSet st2.vols pid v } b (some pid) := by
  have hk := hs.fresh hpid hnot
  obtain ⟨ok, step⟩ := hst2.store v hk (Nat.le_refl _) (Nat.le_trans hpid.1 hs.le)
  exact ⟨ok, (hs.trans step).mono fun i hi => by simpa [or_comm] using hi, hb ▸ Denotes.store hk op hops hd⟩

theorem convertSurface_ok {σ : TSense} {cv : Nat → Bool} {st : CState} (hst : StOK σ cv st) (s : Int) (hs : s ≠ 0)
    (origin : List (Nat × Nat)) :
    StOK σ cv (convertSurface s origin st).2 ∧ Step σ [] st (convertSurface s origin st).2 ∧
    PlainVol σ (convertSurface s origin st).2.vols (convertSurface s origin st).1 (litT σ s) := by
  unfold convertSurface
  cases hf : (st.surfCache.find? (·.1 == s)).map (·.2) with
  | some id => exact ⟨hst, Step.refl σ [] st, (hst.surf s id (find_fst_mem hf)).2⟩
  | none =>
    simp only
    have hk : ¬ hasKey st.vols (st.next + 1) := fun h => by have := hst.below _ h; omega
    generalize hv : ({ pluses := (convEqua [s]).1, minuses := (convEqua [s]).2, origin := origin } : Vol) = v
    have pv : PlainVol σ (dictSet st.vols (st.next + 1) v) (st.next + 1) (litT σ s) := by
      refine ⟨v, by rw [dictGet?_dictSet, if_pos rfl], by subst hv; rfl, ?_⟩
      subst hv
      simpa using equa_convEqua σ [s] (by simpa using hs) none origin true
    obtain ⟨ok, step⟩ := hst.store v hk (Nat.le_succ _) (Nat.le_refl _)
    have step' := step.of_above (fun i hi => by cases List.mem_singleton.mp hi; exact Nat.lt_succ_self _)
    -- not `step'` itself: the state also has the new cache entry, which `Step` does not look at
    refine ⟨⟨ok.below, fun s2 id2 hm => ?_, ok.cell⟩, ⟨step'.le, step'.pres, step'.get, step'.keys⟩, pv⟩
    rcases List.mem_append.mp hm with hm | hm
    · exact ok.surf s2 id2 hm
    · cases List.mem_singleton.mp hm; exact ⟨hs, pv⟩

end T4V
