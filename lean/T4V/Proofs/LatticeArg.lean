import T4V.Text.LatticeArg
import T4V.Proofs.WriteRead
/-!
# `--lattice` arguments: what is written is what is read (`parseOption_optionText`); the lemmas behind "what is
accepted" (Props/C17)
-/
namespace T4V.LAP
open T4V.CC T4V.LA

theorem splitOn_ne_nil (sep : Char) : ∀ l : List Char, splitOn sep l ≠ []
  | [] => by simp [splitOn]
  | c :: r => by
    unfold splitOn
    split
    · simp
    · split <;> simp

theorem splitOn_piece (sep : Char) : ∀ (p : List Char), (∀ c ∈ p, c ≠ sep) → splitOn sep p = [p]
  | [], _ => rfl
  | c :: r, h => by
    have hc : (c == sep) = false := by simpa using h c List.mem_cons_self
    have ih := splitOn_piece sep r (fun x hx => h x (List.mem_cons_of_mem _ hx))
    simp [splitOn, hc, ih]

theorem splitOn_append (sep : Char) : ∀ (p rest : List Char), (∀ c ∈ p, c ≠ sep) →
    splitOn sep (p ++ sep :: rest) = p :: splitOn sep rest
  | [], rest, _ => by simp [splitOn]
  | c :: r, rest, h => by
    have hc : (c == sep) = false := by simpa using h c List.mem_cons_self
    have ih := splitOn_append sep r rest (fun x hx => h x (List.mem_cons_of_mem _ hx))
    simp [splitOn, hc, ih]

/-- `sep.join(pieces)` -/
def joinWith (sep : Char) : List (List Char) → List Char
  | [] => []
  | [p] => p
  | p :: ps => p ++ sep :: joinWith sep ps

theorem splitOn_joinWith (sep : Char) : ∀ (ps : List (List Char)), ps ≠ [] →
    (∀ p ∈ ps, ∀ c ∈ p, c ≠ sep) →
    splitOn sep (joinWith sep ps) = ps
  | [], h, _ => absurd rfl h
  | [p], _, hp => by simpa [joinWith] using splitOn_piece sep p (hp p (by simp))
  | p :: q :: ps, _, hp => by
    have ih := splitOn_joinWith sep (q :: ps) (by simp) (fun x hx => hp x (List.mem_cons_of_mem _ hx))
    show splitOn sep (p ++ sep :: joinWith sep (q :: ps)) = _
    rw [splitOn_append sep p _ (hp p (by simp)), ih]

theorem strip_id (l : List Char) (h : ∀ c ∈ l, cws c = false) : strip l = l := by
  have s1 := Scan.scan_nil (p := cws) (g := l) (Scan.stop_iff.mpr fun c _ e => h c (e ▸ List.mem_cons_self))
  have s2 := Scan.scan_nil (p := cws) (g := l.reverse)
    (Scan.stop_iff.mpr fun c _ e => h c (List.mem_reverse.mp (e ▸ List.mem_cons_self)))
  rw [strip, s1.2, s2.2, List.reverse_reverse]

/-- the characters of an integer as `str()` / `%d` write it -/
def intChars (i : Int) : List Char := (toString i).toList

theorem intChars_ofNat (n : Nat) : intChars (Int.ofNat n) = (toString n).toList := rfl
theorem intChars_negSucc (n : Nat) : intChars (Int.negSucc n) = '-' :: (toString (n + 1)).toList := by
  show ("-" ++ toString (n + 1)).toList = _
  simp

theorem intChars_facts (i : Int) :
    intChars i ≠ [] ∧ ∀ c ∈ intChars i, cws c = false ∧ c ≠ ',' ∧ c ≠ ':' := by
  cases i with
  | ofNat n =>
    rw [intChars_ofNat]
    refine ⟨WR.nat_chars_ne_nil n, fun c hc => ?_⟩
    obtain ⟨hws, -, -, hcomma, hcolon⟩ := WR.digit_facts c (WR.nat_chars_digits n c hc)
    exact ⟨hws, hcomma, hcolon⟩
  | negSucc n =>
    rw [intChars_negSucc]
    refine ⟨by simp, fun c hc => ?_⟩
    rcases List.mem_cons.mp hc with rfl | h
    · exact ⟨by decide, by decide, by decide⟩
    · obtain ⟨hws, -, -, hcomma, hcolon⟩ := WR.digit_facts c (WR.nat_chars_digits _ c h)
      exact ⟨hws, hcomma, hcolon⟩

/-- `pyInt?` = Python's `int()` -/
theorem pyInt_intChars (i : Int) : pyInt? (intChars i) = some i := by
  unfold pyInt?
  rw [strip_id _ (fun c hc => ((intChars_facts i).2 c hc).1)]
  cases i with
  | ofNat n =>
    rw [intChars_ofNat]
    have hne := WR.nat_chars_ne_nil n
    have hd := WR.nat_chars_digits n
    cases hl : (toString n).toList with
    | nil => exact absurd hl hne
    | cons d r =>
      have hdd : d.isDigit = true := hd d (by rw [hl]; exact List.mem_cons_self)
      obtain ⟨-, hminus, hplus, -, -⟩ := WR.digit_facts d hdd
      have hto : (String.ofList (d :: r)).toNat? = some n := by
        rw [← hl]; simp only [String.ofList_toList]; exact WR.toNat_toString n
      split
      · rename_i r' heq; simp only [List.cons.injEq] at heq; exact absurd heq.1 hminus
      · rename_i r' heq; simp only [List.cons.injEq] at heq; exact absurd heq.1 hplus
      · rw [hto]; rfl
  | negSucc n =>
    rw [intChars_negSucc]
    simp only [String.ofList_toList, WR.toNat_toString]
    rfl

/-- `lo:hi` as written -/
def rangeText (r : Int × Int) : List Char := intChars r.1 ++ ':' :: intChars r.2

theorem parseRange_rangeText (r : Int × Int) : parseRange (rangeText r) = .ok r := by
  unfold parseRange rangeText
  have h1 : ∀ c ∈ intChars r.1, c ≠ ':' := fun c hc => ((intChars_facts r.1).2 c hc).2.2
  have h2 : ∀ c ∈ intChars r.2, c ≠ ':' := fun c hc => ((intChars_facts r.2).2 c hc).2.2
  rw [splitOn_append ':' _ _ h1, splitOn_piece ':' _ h2]
  simp only [pyInt_intChars]

theorem parseRanges_rangeTexts : ∀ rs : List (Int × Int), parseRanges (rs.map rangeText) = .ok rs
  | [] => rfl
  | r :: rs => by simp [parseRanges, parseRange_rangeText, parseRanges_rangeTexts rs]

theorem parseRanges_length : ∀ (xs : List (List Char)) (ys : List (Int × Int)),
    parseRanges xs = .ok ys → ys.length = xs.length
  | [], ys, h => by cases h; rfl
  | x :: xs, ys, h => by
    unfold parseRanges at h
    split at h
    · cases h
    · split at h <;> cases h
      rename_i zs hz
      simp [parseRanges_length xs zs hz]

theorem rangeText_no_comma (r : Int × Int) : ∀ c ∈ rangeText r, c ≠ ',' := by
  intro c hc
  simp only [rangeText, List.mem_append, List.mem_cons] at hc
  rcases hc with h | rfl | h
  · exact ((intChars_facts r.1).2 c h).2.1
  · decide
  · exact ((intChars_facts r.2).2 c h).2.1

/-- the option as the documentation writes it: `cell,lo:hi[,lo:hi[,lo:hi]]` -/
def optionText (cell : Int) (rs : List (Int × Int)) : List Char := joinWith ',' (intChars cell :: rs.map rangeText)

theorem parseOption_optionText (cell : Int) (rs : List (Int × Int)) (h1 : 1 ≤ rs.length) (h3 : rs.length ≤ 3) :
    parseOption (optionText cell rs) = .ok (cell, rs) := by
  unfold parseOption optionText
  rw [splitOn_joinWith ',' _ (by simp)]
  · cases rs with
    | nil => simp at h1
    | cons r rs' =>
      simp only [List.map_cons, List.length_cons, List.length_map]
      have : ¬ (rs'.length + 1 > 3) := by simp only [List.length_cons] at h3; omega
      simp only [this, if_false, pyInt_intChars]
      have := parseRanges_rangeTexts (r :: rs')
      simp only [List.map_cons] at this
      rw [this]
  · intro p hp c hc
    rcases List.mem_cons.mp hp with rfl | hp'
    · exact ((intChars_facts cell).2 c hc).2.1
    · obtain ⟨r, _, rfl⟩ := List.mem_map.mp hp'
      exact rangeText_no_comma r c hc

end T4V.LAP
