import T4V.Model.Keywords
/-!
# `parse_keywords` (model): the record as a fold, runs of tokens, and the array form of FILL (ranges, then one universe
per element, then numbers)
-/
namespace T4V

/-- a left fold of assignments seen through an observation `obs` (the keyword record seen through a scalar option or
the importance of a particle): the last item that speaks (`m i = some _`) decides -/
theorem foldl_last {σ ι β : Type} (set : σ → ι → σ) (obs : σ → Option β) (m : ι → Option β)
    (h : ∀ k i, obs (set k i) = (m i).orElse fun _ => obs k) : ∀ (is : List ι) (k : σ),
    obs (is.foldl set k) = (is.reverse.findSome? m).orElse fun _ => obs k
  | [], k => by simp
  | i :: rest, k => by
    rw [List.foldl_cons, foldl_last set obs m h rest, h, List.reverse_cons, List.findSome?_append]
    cases rest.reverse.findSome? m <;> simp

theorem kwRun_append : ∀ (a b : List String) (st : KwState × List Item),
    kwRun st (a ++ b) = match kwRun st a with | .ok st' => kwRun st' b | .error e => .error e
  | [], b, st => by simp [kwRun]
  | t :: a, b, st => by
      simp only [List.cons_append, kwRun]
      cases h : kwStep st t with
      | error e => rfl
      | ok st' => exact kwRun_append a b st'

/-- `S xs`: a state that collects tokens in a list (the index ranges, the universes before the last one, the numeric
arguments of an array FILL); the bound on the length is what the universes need (fewer than `need` so far) -/
theorem kwRun_collect (S : List String → KwState) (acc : List Item) : ∀ (ts xs rest : List String),
    (∀ t ∈ ts, ∀ ys : List String, ys.length < xs.length + ts.length →
      kwStep (S ys, acc) t = .ok (S (ys ++ [t]), acc)) →
    kwRun (S xs, acc) (ts ++ rest) = kwRun (S (xs ++ ts), acc) rest
  | [], xs, rest, _ => by simp
  | t :: ts, xs, rest, h => by
      rw [List.cons_append, kwRun, h t (by simp) xs (by simp)]
      simp only
      rw [kwRun_collect S acc ts (xs ++ [t]) rest fun u hu ys hl =>
        h u (List.mem_cons_of_mem _ hu) ys
          (by simp only [List.length_append, List.length_cons, List.length_nil] at hl ⊢; omega)]
      simp [List.append_assoc]

theorem kwRun_universes_short (star : Bool) (rs : List String) (need : Int) (acc : List Item)
    (us us0 rest : List String) (h : ∀ u ∈ us, classifyU u = .num)
    (hlen : ((us0.length + us.length : Nat) : Int) < need) :
    kwRun (.fillArr star rs need us0, acc) (us ++ rest) = kwRun (.fillArr star rs need (us0 ++ us), acc) rest :=
  kwRun_collect (.fillArr star rs need) acc us us0 rest fun t ht ys hl => by
    have : (((ys ++ [t]).length : Nat) : Int) < need := by
      simp only [List.length_append, List.length_cons, List.length_nil]; omega
    simp only [kwStep, arrTok, h t ht, this, if_true]

/-- the last universe is the step that changes the state -/
theorem kwRun_universes (star : Bool) (rs : List String) (need : Int) (acc : List Item)
    (us us0 rest : List String) (hne : us ≠ []) (h : ∀ u ∈ us, classifyU u = .num)
    (hlen : ((us0.length + us.length : Nat) : Int) = need) :
    kwRun (.fillArr star rs need us0, acc) (us ++ rest) = kwRun (.fillArrNums star rs (us0 ++ us) [], acc) rest := by
  obtain ⟨init, u, rfl⟩ : ∃ init u, us = init ++ [u] := ⟨_, _, (List.dropLast_concat_getLast hne).symm⟩
  have hfull : (((us0 ++ (init ++ [u])).length : Nat) : Int) = need := by
    simp only [List.length_append, List.length_cons, List.length_nil] at hlen ⊢; omega
  rw [List.append_assoc, kwRun_universes_short star rs need acc init us0 _ (fun x hx => h x (by simp [hx]))
    (by simp only [List.length_append, List.length_cons, List.length_nil] at hlen; omega)]
  rw [List.singleton_append, kwRun]
  simp only [kwStep, arrTok, h u (by simp), hfull, Int.lt_irrefl, if_false, beq_self_eq_true, if_true, List.append_assoc]

theorem kwRun_fill_ranges (star : Bool) (kw r : String) (rs rest : List String) (acc : List Item)
    (hkw : startKeyword kw = .fillFirst star) (hr : contains r ":" = true) (hrs : ∀ x ∈ rs, contains x ":" = true) :
    kwRun (.idle, acc) (kw :: r :: (rs ++ rest)) = kwRun (.fillRng star (r :: rs), acc) rest := by
  rw [kwRun]
  simp only [kwStep, hkw]
  rw [kwRun]
  simp only [kwStep, hr, if_true]
  rw [kwRun_collect (.fillRng star) acc rs [r] rest fun t ht ys _ => by simp [kwStep, hrs t ht], List.singleton_append]

/-- the first universe leaves the ranges: the same step as from the (empty) universe list -/
theorem kwRun_first_universe (star : Bool) (rs : List String) (need : Int) (u : String) (rest : List String)
    (acc : List Item) (hsz : rangesSize rs = .ok need) (hpos : 0 < need) (hu : contains u ":" = false) :
    kwRun (.fillRng star rs, acc) (u :: rest) = kwRun (.fillArr star rs need [], acc) (u :: rest) := by
  have hnp : ¬ (need ≤ 0) := by omega
  rw [kwRun, kwRun]
  simp only [kwStep, hu, Bool.false_eq_true, if_false, hsz, hnp]

theorem array_fill_reads (star : Bool) (kw r : String) (rs us ps : List String) (need : Int) (acc : List Item)
    (hkw : startKeyword kw = .fillFirst star)
    (hr : contains r ":" = true) (hrs : ∀ x ∈ rs, contains x ":" = true)
    (hsz : rangesSize (r :: rs) = .ok need)
    (hus : ∀ u ∈ us, classifyU u = .num ∧ contains u ":" = false)
    (hlen : (us.length : Int) = need) (hpos : 0 < need)
    (hps : ∀ p ∈ ps, numericLead p = true) :
    kwRun (.idle, acc) (kw :: r :: (rs ++ us ++ ps)) = .ok (.fillArrNums star (r :: rs) us ps, acc) := by
  rw [List.append_assoc, kwRun_fill_ranges star kw r rs (us ++ ps) acc hkw hr hrs]
  cases us with
  | nil => simp at hlen; omega
  | cons u us' =>
    rw [List.cons_append, kwRun_first_universe star (r :: rs) need u _ acc hsz hpos (hus u (by simp)).2,
      ← List.cons_append, kwRun_universes star (r :: rs) need acc (u :: us') [] ps (by simp) (fun x hx => (hus x hx).1)
        (by simpa using hlen)]
    -- numbers after the last universe are the numeric arguments of the keyword
    simpa [kwRun] using kwRun_collect (.fillArrNums star (r :: rs) (u :: us')) acc ps [] [] fun t ht ys _ => by
      simp [kwStep, arrNums, hps t ht]

/-- `parse_fill_kw`: `expected … universe specifications after FILL keyword` -/
theorem kw_fill_array_too_short (star : Bool) (kw r : String) (rs us : List String) (need : Int)
    (hkw : startKeyword kw = .fillFirst star)
    (hr : contains r ":" = true) (hrs : ∀ x ∈ rs, contains x ":" = true)
    (hsz : rangesSize (r :: rs) = .ok need)
    (hus : ∀ u ∈ us, classifyU u = .num ∧ contains u ":" = false)
    (hlen : (us.length : Int) < need) :
    groupTokens (kw :: r :: (rs ++ us)) = .error .arrayCount := by
  unfold groupTokens
  have h0 := kwRun_fill_ranges star kw r rs us [] hkw hr hrs
  cases us with
  | nil =>
    have hne : ¬ (need = 0) := by simp at hlen; omega
    rw [h0]
    simp [kwRun, kwFinish, hsz, hne]
  | cons u us' =>
    have hpos : 0 < need := by
      have : (0 : Int) ≤ ((u :: us').length : Int) := Int.natCast_nonneg _
      omega
    have := kwRun_universes_short star (r :: rs) need [] (u :: us') [] [] (fun x hx => (hus x hx).1)
      (by simpa using hlen)
    rw [List.append_nil] at this
    rw [h0, kwRun_first_universe star (r :: rs) need u us' [] hsz hpos (hus u (by simp)).2, this]
    simp [kwRun, kwFinish]

end T4V
