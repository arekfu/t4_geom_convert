import T4V.Model.Inline
/-!
# Inlining a cell reference keeps the Boolean function, whichever references are selected
-/
namespace T4V

/-- `cv` gives every cell of the dictionary the value of its own tree -/
def CVFix (cells : List (Nat × Geom)) (σ : SurfVal) (cv : Nat → Bool) : Prop :=
  ∀ c g, geomOf cells c = some g → cv c = g.eval σ cv

mutual
theorem inlineWorker_eval (cells : List (Nat × Geom)) (toInline : List Nat) (σ : SurfVal) (cv : Nat → Bool)
    (hfix : CVFix cells σ cv) : ∀ (fuel : Nat) (g g' : Geom), inlineWorker cells toInline fuel g = some g' →
      g'.eval σ cv = g.eval σ cv
  | 0, _, _, h => by simp [inlineWorker] at h
  | _ + 1, .surf _ _, g', h | _ + 1, .cref _, g', h | _ + 1, .compl _, g', h => by
      simp only [inlineWorker, Option.some.injEq] at h; subst h; rfl
  | fuel + 1, .node op args, g', h => by
      simp only [inlineWorker, Option.map_eq_some_iff] at h
      obtain ⟨args', ha, rfl⟩ := h
      have := inlineArgs_eval cells toInline σ cv hfix fuel args args' ha
      cases op <;> simp [Geom.eval, this.1, this.2]
theorem inlineArg_eval (cells : List (Nat × Geom)) (toInline : List Nat) (σ : SurfVal) (cv : Nat → Bool)
    (hfix : CVFix cells σ cv) : ∀ (fuel : Nat) (a a' : Geom), inlineArg cells toInline fuel a = some a' →
      a'.eval σ cv = a.eval σ cv
  | 0, _, _, h => by simp [inlineArg] at h
  | fuel + 1, .cref c, a', h => by
      simp only [inlineArg] at h
      by_cases hc : toInline.contains c = true
      · simp only [hc, if_true] at h
        cases hg : geomOf cells c with
        | none => simp [hg] at h
        | some g =>
          simp only [hg] at h
          rw [inlineWorker_eval cells toInline σ cv hfix fuel g a' h]
          simp [Geom.eval, hfix c g hg]
      · simp only [hc, Bool.false_eq_true, if_false, Option.some.injEq] at h
        subst h; rfl
  | _ + 1, .surf n sub, a', h => by simp only [inlineArg, Option.some.injEq] at h; subst h; rfl
  | fuel + 1, .compl _, a', h | fuel + 1, .node _ _, a', h => by
      simp only [inlineArg] at h
      exact inlineWorker_eval cells toInline σ cv hfix fuel _ _ h
theorem inlineArgs_eval (cells : List (Nat × Geom)) (toInline : List Nat) (σ : SurfVal) (cv : Nat → Bool)
    (hfix : CVFix cells σ cv) : ∀ (fuel : Nat) (as as' : List Geom), inlineArgs cells toInline fuel as = some as' →
      Geom.evalAll σ cv as' = Geom.evalAll σ cv as ∧ Geom.evalAny σ cv as' = Geom.evalAny σ cv as
  | 0, _, _, h => by simp [inlineArgs] at h
  | _ + 1, [], as', h => by
      simp only [inlineArgs, Option.some.injEq] at h; subst h; exact ⟨rfl, rfl⟩
  | fuel + 1, a :: as, as', h => by
      simp only [inlineArgs] at h
      split at h
      next a' r' h1 h2 =>
        cases h
        have hae := inlineArg_eval cells toInline σ cv hfix fuel a a' h1
        have ih := inlineArgs_eval cells toInline σ cv hfix fuel as r' h2
        simp [Geom.evalAll, Geom.evalAny, hae, ih.1, ih.2]
      · cases h
end

end T4V
